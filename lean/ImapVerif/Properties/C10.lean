/-
  C10 - Command arguments are quoted injectively; no argument can inject protocol.
  `Builders.quotedString` / `login` / `list` / `select` model the builders of command.rs;
  `Quoted.lexQuoted` is an independent lexer of quoted strings.
-/
import ImapVerif.Proofs.Quoted

open Bytes Builders Quoted

namespace C10

/-- text containing CR or LF is refused, and nothing else is -/
theorem quoted_refuses_iff_crlf (s : Bytes) :
    quotedString s = .refused ↔ ∃ c ∈ s, c = 13 ∨ c = 10 := by
  -- the builder's own test, as a statement about the text
  have hany : s.any (fun c => c == 13 || c == 10) = true ↔ ∃ c ∈ s, c = 13 ∨ c = 10 := by
    simp only [List.any_eq_true, Bool.or_eq_true, beq_iff_eq]
  rw [← hany, quotedString]
  split
  · exact iff_of_true rfl ‹_›
  · split
    · exact iff_of_false nofun ‹_›
    · exact iff_of_false nofun ‹_›

/-- for UTF-8 text (every Rust `&str`) the builder never hits `String::from_utf8(..).unwrap()` -/
theorem quoted_never_panics (s : Bytes) (h : validUtf8 s = true) : quotedString s ≠ .panic := by
  unfold quotedString
  split
  · simp
  · simp [escape_utf8 s h]

/-- what is emitted is the escaped text, and it stays UTF-8 -/
theorem quoted_ok (s : Bytes) (h : validUtf8 s = true) (hc : ∀ c ∈ s, isCRLF c = false) :
    quotedString s = .ok (escape s) := by
  simp [quotedString, (any_crlf_false s).2 hc, escape_utf8 s h]

theorem quotedString_ok {s q : Bytes} (h : quotedString s = .ok q) :
    q = escape s ∧ ∀ c ∈ s, isCRLF c = false := by
  unfold quotedString at h
  split at h
  · cases h
  next hany =>
    split at h <;> cases h
    exact ⟨rfl, (any_crlf_false s).1 (Bool.not_eq_true _ ▸ hany)⟩

/-- undoing the two backslash escapes gives back exactly the text given, and the lexer stops at the
    builder's closing quote: no argument value can close its own quotes -/
theorem unescape_quoted (s q rest : Bytes) (h : quotedString s = .ok q) :
    lexQuoted (34 :: (q ++ 34 :: rest)) = some (s, rest) := by
  obtain ⟨rfl, hc⟩ := quotedString_ok h
  exact lexBody_escape s rest hc

/-- the emitted argument contains no CR or LF -/
theorem quoted_no_crlf (s q : Bytes) (h : quotedString s = .ok q) : ∀ c ∈ q, isCRLF c = false := by
  obtain ⟨rfl, hc⟩ := quotedString_ok h
  exact escape_no_crlf s hc

/-- two-argument commands (LOGIN, LIST): the line is `VERB SP quoted SP quoted`, each argument lexes
    back to exactly the text given, nothing is left over -/
theorem two_args_lex (verb a b line : Bytes) (h : quote2 verb a b = .ok line) :
    ∃ r1 r2, line = verb ++ [32] ++ r1 ∧ lexQuoted r1 = some (a, 32 :: r2) ∧ lexQuoted r2 = some (b, []) := by
  unfold quote2 at h
  split at h <;> try cases h
  rename_i qa ha
  split at h <;> cases h
  rename_i qb hb
  exact ⟨34 :: (qa ++ 34 :: 32 :: 34 :: (qb ++ [34])), 34 :: (qb ++ [34]), by simp,
    unescape_quoted a qa _ ha, unescape_quoted b qb [] hb⟩

theorem login_line_lexes (u p line : Bytes) (h : login u p = .ok line) :
    ∃ r1 r2, line = b!"LOGIN" ++ [32] ++ r1 ∧ lexQuoted r1 = some (u, 32 :: r2) ∧
      lexQuoted r2 = some (p, []) := two_args_lex _ u p line h

theorem list_line_lexes (r g line : Bytes) (h : list r g = .ok line) :
    ∃ r1 r2, line = b!"LIST" ++ [32] ++ r1 ∧ lexQuoted r1 = some (r, 32 :: r2) ∧
      lexQuoted r2 = some (g, []) := two_args_lex _ r g line h

/-- one-argument commands (SELECT, EXAMINE, with or without `(CONDSTORE)`) -/
theorem select_line_lexes (ex cs : Bool) (m line : Bytes) (h : select ex cs m = .ok line) :
    ∃ r1, line = (if ex then b!"EXAMINE" else b!"SELECT") ++ [32] ++ r1 ∧
      lexQuoted r1 = some (m, if cs then b!" (CONDSTORE)" else []) := by
  cases hq : quotedString m <;> simp only [select, quote1, hq] at h <;> cases h
  rename_i qa
  exact ⟨34 :: (qa ++ 34 :: if cs then b!" (CONDSTORE)" else []), by cases cs <;> simp,
    unescape_quoted m qa _ hq⟩

/-- refusal is all-or-nothing: a CR or LF in either argument refuses the whole command -/
theorem two_args_refused (verb a b : Bytes) (h : (∃ c ∈ a, c = 13 ∨ c = 10) ∨ (∃ c ∈ b, c = 13 ∨ c = 10))
    (ha : validUtf8 a = true) (hb : validUtf8 b = true) : quote2 verb a b = .refused := by
  unfold quote2
  rcases h with h | h
  · rw [(quoted_refuses_iff_crlf a).2 h]
  · -- the second argument is refused whatever else it contains (`hb` is not needed); the first is emitted
    -- or refused, since it does not panic
    rw [(quoted_refuses_iff_crlf b).2 h]
    split
    · rfl
    · rfl
    · exact absurd ‹_› (quoted_never_panics a ha)

/-- the encoder adds exactly one CRLF, at the end: a command whose tag and arguments contain no CR/LF
    goes on the wire as a single line -/
theorem encode_single_line (tag args : Bytes) (ht : ∀ c ∈ tag, isCRLF c = false)
    (ha : ∀ c ∈ args, isCRLF c = false) :
    ∃ l, encode tag args = l ++ [13, 10] ∧ ∀ c ∈ l, isCRLF c = false :=
  ⟨tag ++ [32] ++ args, rfl, List.forall_mem_append.2 ⟨List.forall_mem_append.2 ⟨ht, by decide⟩, ha⟩⟩

example : login (b!"a\"b") (b!"p\\") = .ok (b!"LOGIN \"a\\\"b\" \"p\\\\\"") := by decide +kernel
example : login (b!"a\r\nA2 LOGOUT") (b!"p") = .refused := by decide +kernel
example : lexQuoted (b!"\"a\\\"b\" rest") = some (b!"a\"b", b!" rest") := by decide +kernel

end C10
