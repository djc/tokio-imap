/-
  C04 - Framing is independent of how the byte stream is chunked; nothing is withheld.
  `Client.pollNext` models `Framed<_, ImapCodec>::poll_next` (tokio-util read loop + `ImapCodec::decode`),
  driven by an arbitrary script of transport read outcomes (data chunks of any size, Pending, EOF).
  `Framed.ideal` is the one-shot parse of a whole byte stream.
  The run invariant is stated for runs in which no poll reports an error (after an error the
  connection is unusable); the terminal behaviour (end of file, malformed bytes, the poll after an
  error) is covered by the one-poll theorems at the end of the file.
-/
import ImapVerif.Proofs.Framed

open Bytes Client Framed

namespace C04

/-- the frames delivered, followed by the one-shot parse of what has not been delivered yet, are the
    one-shot parse of the whole stream: no frame is lost, duplicated, merged or torn, whatever the
    chunking and wherever Pending is injected -/
theorem frames_are_one_shot_prefix (k : Nat) (rs : List REv) (res : List PollR) (s' : Rd) (rs' : List REv)
    (h : polls k {} rs = (res, s', rs')) (hne : ∀ r ∈ res, r ≠ .item .error) :
    framesOf res ++ ideal (s'.rbuf ++ dataOf rs') = ideal (dataOf rs) := by
  simpa using (polls_ideal k {} rs res s' rs' h rfl settled_fresh hne).1

/-- two schedules that deliver the same bytes - however differently they cut them - yield the same
    frames, up to what each has not yet delivered -/
theorem chunking_independent (k1 k2 : Nat) (rs1 rs2 : List REv) (hdata : dataOf rs1 = dataOf rs2)
    (res1 res2 : List PollR) (s1 s2 : Rd) (r1 r2 : List REv)
    (h1 : polls k1 {} rs1 = (res1, s1, r1)) (h2 : polls k2 {} rs2 = (res2, s2, r2))
    (n1 : ∀ r ∈ res1, r ≠ .item .error) (n2 : ∀ r ∈ res2, r ≠ .item .error) :
    framesOf res1 ++ ideal (s1.rbuf ++ dataOf r1) = framesOf res2 ++ ideal (s2.rbuf ++ dataOf r2) := by
  rw [frames_are_one_shot_prefix k1 rs1 res1 s1 r1 h1 n1, frames_are_one_shot_prefix k2 rs2 res2 s2 r2 h2 n2,
    hdata]

/-- a Pending means that nothing decodable is left in the buffer -/
theorem pending_nothing_decodable (s : Rd) (rs : List REv) (s' : Rd) (rs' : List REv) (n : Nat)
    (he : s.errored = false) (hs : Settled s) (h : pollNext s rs = (.pending, s', rs', n)) :
    decodeC s'.rbuf = .none :=
  (pollNextGo_spec rs s 0 .pending s' rs' n h).pending rfl he hs

/-- **nothing is withheld**: at any moment at which the transport has nothing more to give (the
    script is exhausted and the stream reports Pending), every response contained in the bytes
    received so far has been delivered: the frames delivered are the one-shot parse of all bytes
    received.  In particular, if those bytes end exactly at the end of a response, all responses
    received have been delivered and the buffer is empty of frames. -/
theorem nothing_withheld (k : Nat) (rs : List REv) (res : List PollR) (s1 : Rd) (rs1 : List REv)
    (h : polls k {} rs = (res, s1, rs1)) (hne : ∀ r ∈ res, r ≠ .item .error)
    (s2 : Rd) (n : Nat) (hp : pollNext s1 rs1 = (.pending, s2, [], n)) :
    framesOf res = ideal (dataOf rs) := by
  obtain ⟨hi, hs1, he1⟩ := polls_ideal k {} rs res s1 rs1 h rfl settled_fresh hne
  obtain ⟨⟨used, hu1, hu2, -⟩, -, hpend, -⟩ := pollNextGo_spec rs1 s1 0 .pending s2 [] n hp
  -- the whole remainder s1.rbuf ++ dataOf rs1 is s2.rbuf, which holds no frame
  rw [hu1, List.append_nil, hu2, show rawOf .pending ++ s2.rbuf = s2.rbuf from rfl,
    ideal_none (hpend rfl he1 hs1)] at hi
  simpa using hi

/-- a delivered frame is what `decode` yields on its own bytes followed by the buffer this poll leaves behind -/
theorem frame_is_decode (s : Rd) (rs : List REv) (f : Frame) (s' : Rd) (rs' : List REv) (n : Nat)
    (h : pollNext s rs = (.item (.frame f), s', rs', n)) :
    ∃ b, decodeC b = .frame f s'.rbuf ∧ b = f.raw ++ s'.rbuf :=
  ⟨_, (pollNextGo_spec rs s 0 _ s' rs' n h).frame f rfl, rfl⟩

/-- bytes are conserved by every poll: buffer + bytes read = bytes of the frame delivered + new buffer -/
theorem poll_conserves_bytes (s : Rd) (rs : List REv) (r : PollR) (s' : Rd) (rs' : List REv) (n : Nat)
    (h : pollNext s rs = (r, s', rs', n)) :
    ∃ used, rs = used ++ rs' ∧ s.rbuf ++ dataOf used = rawOf r ++ s'.rbuf ∧ n = used.length := by
  simpa using (pollNextGo_spec rs s 0 r s' rs' n h).bytes

/-! non-vacuity: the schedule of defect F6 (DESIGN 0.3) - cut inside `[M`, peer silent afterwards - delivers its frame -/
example : (polls 1 {} [.data (b!"* OK [M"), .data (b!"ail] x\r\n")]).1.length = 1 := by decide +kernel
example : framesOf (polls 2 {} [.data (b!"* OK [M"), .data (b!"ail] x\r\n")]).1
    = ideal (b!"* OK [Mail] x\r\n") := by rfl
example : (ideal (b!"* OK [Mail] x\r\n* 1 EXISTS\r\n* 2 EXI")).length = 2 := by decide +kernel

/-- **end of stream after a quiet moment**: the stream has reported Pending-worthy state (nothing
    decodable left, `Settled`), then the transport reports end of file.  The stream ends cleanly
    (`None`) exactly when the buffer is empty; left-over bytes (a partial response) yield an error
    item ("bytes remaining on stream"), never a silent end and never a made-up frame. -/
theorem eof_after_settled (s : Rd) (rs : List REv) (hr : s.readable = false) (he : s.errored = false)
    (hf : s.eof = false) (hs : Settled s) :
    pollNext s (.eof :: rs) =
      if s.rbuf.isEmpty then (.done, { s with eof := true, readable := false }, rs, 1)
      else (.item .error, { s with eof := true, readable := true, errored := true }, rs, 1) := by
  have hnone : decodeC s.rbuf = .none := hs hr
  -- nothing is readable, so the poll reads; the end of file makes the buffer readable again for `decode_eof`
  rw [pollNext, pollNextGo]
  simp only [decodePhase, he, hr, hf, Bool.false_eq_true, if_false]
  split <;> exact pollNextGo_of_ret (by simp [decodePhase, *]) rs 1

/-- **at end of file, complete responses still come first**: with the end-of-file flag set and bytes
    in the buffer, every poll delivers the next frame while the buffer starts with a complete
    response; only then the verdict (`eof_verdict`) applies -/
theorem eof_delivers_frames_first (s : Rd) (rs : List REv) (f : Frame) (rest : Bytes)
    (he : s.errored = false) (hr : s.readable = true) (hf : s.eof = true)
    (hd : decodeC s.rbuf = .frame f rest) :
    pollNext s rs = (.item (.frame f), { s with rbuf := rest }, rs, 0) :=
  pollNextGo_of_ret (by simp [decodePhase, he, hr, hf, hd]) rs 0

/-- at end of file with nothing decodable: clean end iff the buffer is empty -/
theorem eof_verdict (s : Rd) (rs : List REv) (he : s.errored = false) (hr : s.readable = true) (hf : s.eof = true)
    (hd : decodeC s.rbuf = .none) :
    pollNext s rs =
      if s.rbuf.isEmpty then (.done, { s with readable := false }, rs, 0)
      else (.item .error, { s with errored := true }, rs, 0) := by
  split <;> exact pollNextGo_of_ret (by simp [decodePhase, *]) rs 0

/-- malformed bytes are an error item, at end of file or before it -/
theorem malformed_is_error (s : Rd) (rs : List REv) (he : s.errored = false) (hr : s.readable = true)
    (hd : decodeC s.rbuf = .error) :
    pollNext s rs = (.item .error, { s with errored := true }, rs, 0) :=
  pollNextGo_of_ret (by cases hf : s.eof <;> simp [decodePhase, he, hr, hf, hd]) rs 0

/-- after an error item the next poll ends the stream (`None`); nothing is read or decoded -/
theorem after_error_ends (s : Rd) (rs : List REv) (he : s.errored = true) :
    pollNext s rs = (.done, { s with readable := false, errored := false }, rs, 0) :=
  pollNextGo_of_ret (by simp [decodePhase, he]) rs 0

end C04
