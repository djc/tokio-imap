/-
  C12 - Equivalent wire encodings parse to equal values.

  Full statement: if `e1` and `e2` are two spellings of the same response (differing in keyword
  case, NIL case, atom / quoted / literal form where the grammar allows more than one, leading
  zeros, and the tolerated deviations), then both parse, to equal values.

  The spelling choices are the parameters of the printer relation `RT.EncResponse`:
    * `spell kw mask`      - every keyword (and NIL) in any mixture of upper and lower case;
    * `EncString`          - quoted or literal; `EncAString` - atom, quoted or literal;
      `EncNString`         - NIL (any case) or a string;
    * `EncNumber.mk z`     - `z` leading zeros;
    * deviations           - trailing spaces before CRLF (`k`), a doubled space after RFC822.HEADER,
                             adjacent addresses with or without a space.
  Two encodings related to the same value by the relation are "equivalent spellings".

  Proved: `spellings_agree` for all responses covered by the relation - every response kind of the
  grammar (see C03 for the list).  The tolerated deviations are constructor parameters too: trailing
  spaces before CRLF, the trailing space after SEARCH / SORT, white-space runs (SP / HTAB, any length)
  in QUOTA, QUOTAROOT, ID, ACL, LISTRIGHTS, MYRIGHTS, VANISHED, white space before the closing
  parenthesis of ID, `+` with or without the space, the doubled space after RFC822.HEADER, adjacent
  addresses with or without a space, `\*` in flag lists, the empty STATUS list.
-/
import ImapVerif.Proofs.RT.Resp

open Bytes Parser Grammar RT

namespace C12

/-- two spellings of one value parse to the same value (each consuming exactly its own bytes) -/
theorem spellings_agree (r : Response) (e1 e2 : Bytes) (h1 : EncResponse r e1) (h2 : EncResponse r e2)
    (rest1 rest2 : Bytes) :
    ∃ v, parseResponse (e1 ++ rest1) = .ok v rest1 ∧ parseResponse (e2 ++ rest2) = .ok v rest2 :=
  ⟨r, parseResponse_enc r e1 h1 rest1, parseResponse_enc r e2 h2 rest2⟩

/-- keyword case: a keyword parser accepts every case mixture of its keyword -/
theorem keyword_any_case (kw : Bytes) (mask : List Bool) (rest : Bytes) :
    tagNoCase kw (spell kw mask ++ rest) = .ok () rest := tagNoCase_spell kw mask rest trivial

/-- NIL in any case is the absent string -/
theorem nil_any_case (mask : List Bool) (rest : Bytes) :
    nstring (spell (b!"NIL") mask ++ rest) = .ok none rest :=
  nstring_enc none _ (EncNString.nil mask) rest trivial

/-- quoted and literal forms of one string give one value -/
theorem string_forms_agree (s e1 e2 : Bytes) (h1 : EncString s e1) (h2 : EncString s e2) (r1 r2 : Bytes) :
    string (e1 ++ r1) = .ok s r1 ∧ string (e2 ++ r2) = .ok s r2 :=
  ⟨string_enc h1 r1 trivial, string_enc h2 r2 trivial⟩

/-- atom, quoted and literal forms of one astring give one value -/
theorem astring_forms_agree (s e1 e2 : Bytes) (h1 : EncAString s e1) (h2 : EncAString s e2)
    (r1 r2 : Bytes) (hr1 : Starts notAstringChar r1) (hr2 : Starts notAstringChar r2) :
    astring (e1 ++ r1) = .ok s r1 ∧ astring (e2 ++ r2) = .ok s r2 :=
  ⟨astring_enc h1 r1 hr1, astring_enc h2 r2 hr2⟩

/-- leading zeros do not change a number -/
theorem zero_padding_irrelevant (n : Nat) (hn : n < 2 ^ 32) (z1 z2 : Nat) (c : UInt8) (rest : Bytes)
    (hc : isDigit c = false) :
    number (List.replicate z1 48 ++ decDigits n ++ c :: rest) = number (List.replicate z2 48 ++ decDigits n ++ c :: rest) :=
  (Num.numberB_complete (2 ^ 32) n z1 hn c rest hc).trans (Num.numberB_complete (2 ^ 32) n z2 hn c rest hc).symm

theorem eqIgnore_spell (t : Bytes) (m : List Bool) : eqIgnoreAsciiCase (spell t m) t = true := by
  induction t generalizing m with
  | nil => cases m <;> rfl
  | cons c cs ih =>
    obtain ⟨c', hc', hcc⟩ := spell_cons c cs m
    have hl : lower c' = lower c := by rcases hcc with rfl | rfl <;> simp [lower_flip]
    rw [hc']
    simp [eqIgnoreAsciiCase, hl, ih]

/-- INBOX in any case is INBOX (any other name is returned as sent: `RT.mailbox_enc`, whose value is `canonMailbox`) -/
theorem inbox_case_folded (mask : List Bool) (rest : Bytes) (hr : Starts notAstringChar rest) :
    mailbox (spell (b!"INBOX") mask ++ rest) = .ok (b!"INBOX") rest := by
  have hall : ∀ c ∈ spell (b!"INBOX") mask, isAstringChar c = true := spell_all_mem _ mask (by decide)
  have hne := (spell_head 73 (b!"NBOX") mask).ne_nil
  have hutf := Utf8.ascii_utf8 _ fun c hc => astringChar_ascii c (hall c hc)
  have := mailbox_enc (EncAString.atom hne hall) hutf rest hr
  simpa [canonMailbox, eqIgnore_spell] using this

/-! ### non-vacuity: two different spellings of one response, and their common value -/

example : parseResponse (b!"* 12 FETCH (UID 7 RFC822 NIL)\r\n") = .ok (.fetch 12 [.uid 7, .rfc822 none]) [] := by rfl
example : parseResponse (b!"* 0012 fetch (uid 007 rfc822 nil)   \r\n") = .ok (.fetch 12 [.uid 7, .rfc822 none]) [] := by rfl
example : parseResponse (b!"* 1 FETCH (RFC822.TEXT \"ab\")\r\n") = parseResponse (b!"* 1 FETCH (RFC822.TEXT {2}\r\nab)\r\n") := by rfl

end C12
