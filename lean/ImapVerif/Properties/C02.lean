/-
  C02 - Streaming verdicts are final; prefixes of a response are 'incomplete'.
  `parseResponse` is the model of `imap_proto::Response::from_bytes`.
-/
import ImapVerif.Proofs.StableGrammar

open Bytes Parser Grammar

namespace C02

/-- an accept persists: same value, same consumed length, whatever bytes follow -/
theorem parse_stable_ok (b x : Bytes) (v : Response) (r : Bytes)
    (h : parseResponse b = .ok v r) : parseResponse (b ++ x) = .ok v (r ++ x) :=
  Stable.ok (p := parseResponse) b v r x h

/-- a reject persists (nom `Error` and `Failure`, both of which the codec turns into `io::Error`) -/
theorem parse_stable_err (b x : Bytes) :
    (parseResponse b = .err → parseResponse (b ++ x) = .err) ∧
    (parseResponse b = .fail → parseResponse (b ++ x) = .fail) :=
  ⟨Stable.err (p := parseResponse) b x, Stable.fail (p := parseResponse) b x⟩

/-- what is returned as remainder is a suffix of the buffer: "consumed length" is well defined -/
theorem parse_rest_is_suffix (b : Bytes) (v : Response) (r : Bytes)
    (h : parseResponse b = .ok v r) : ∃ c, b = c ++ r :=
  Stable.suffix (p := parseResponse) b v r h

/-- every proper prefix of the consumed part of an accepted response is reported 'incomplete':
    never an error, never a different response -/
theorem prefix_incomplete (c r : Bytes) (v : Response) (h : parseResponse (c ++ r) = .ok v r)
    (p y : Bytes) (hc : c = p ++ y) (hy : y ≠ []) : parseResponse p = .inc :=
  Stable.prefix_inc h hc hy

/-- where the network splits the stream cannot change what is parsed: once a buffer is accepted, each of
    its continuations (here two, `b ++ x` and `b ++ y`) is accepted with the same value and the same
    consumed part -/
theorem split_irrelevant (b x y : Bytes) (v : Response) (r : Bytes)
    (h : parseResponse b = .ok v r) :
    parseResponse (b ++ x) = .ok v (r ++ x) ∧ parseResponse (b ++ y) = .ok v (r ++ y) :=
  ⟨parse_stable_ok b x v r h, parse_stable_ok b y v r h⟩

/-! non-vacuity: a concrete accepted response and a concrete rejected buffer -/
example : parseResponse (b!"* 5 EXISTS\r\n") = .ok (.mailboxData (.exists_ 5)) [] := by rfl
example : parseResponse (b!"* 5 EXISTS\r\nA1") = .ok (.mailboxData (.exists_ 5)) (b!"A1") := by rfl
example : parseResponse (b!"* 5 EXI") = .inc := by rfl
example : parseResponse (b!"* 5 EXIT") = .err := by rfl

end C02
