/-
  C16 - Whatever the FETCH builder can request, the parser can read.

  Full statement: for every attribute `a` and macro the builder can put into a FETCH command, every
  RFC-conformant reply item answering `a` is parsed by `msg_att` into a value of the kind that
  answers `a`; and a reply carrying one item per requested attribute parses to one value per item.

  The request side is `Builders.attrName` / `Builders.macroName` (what the builder writes; C14
  proves these are the RFC 3501 names); the reply side is the printer relation `RT.EncAttr`.

  Proved here (no part of the statement is left to the correspondence run):
    * `keyword_table_agrees` / `answer_keyword`: for every attribute, the keyword the builder sends is
      the keyword under which the parser's alternative for the answer is selected, and every
      conformant answer begins with it;
    * `item_readable`: every conformant reply item, for each of the 11 attributes (BODY included: the
      non-extensible body structure of any shape within the nesting budget), parses to exactly the
      value sent;
    * `reply_readable`: a complete `* n FETCH (...)` reply with one item per requested attribute
      parses, returning one value per item in order;
    * `macro_expansion_covered`: ALL, FAST and FULL expand (RFC 3501 6.4.5) to attributes of the table.
  Restriction inherited from the code (fix F3): a body structure nested deeper than MAX_NESTING = 32
  is refused by design; `EncBody 33` is the set of structures within that budget.
-/
import ImapVerif.Proofs.RT.Resp
import ImapVerif.Builders

open Bytes Parser Grammar RT

namespace C16

open Builders (Attribute AttrMacro attrName macroName)

/-- `Reply a v e`: `e` is a conformant reply item (RFC 3501 7.4.2, RFC 7162, Gmail ext.) answering
    the requested attribute `a`, carrying the value `v`.  `BODY` is answered in the non-extensible
    form `BODY (...)`. -/
inductive Reply : Attribute → AttributeValue → Bytes → Prop
  | body (m : List Bool) (b : BodyStructure) (e : Bytes) : EncBody 33 b e →
      Reply .body (.bodyStructure b) (spell (b!"BODY ") m ++ e)
  | envelope (m : List Bool) (v : Envelope) (e : Bytes) : EncEnvelope v e →
      Reply .envelope (.envelope v) (spell (b!"ENVELOPE ") m ++ e)
  | flags (m : List Bool) (vs : List Bytes) (e : Bytes) : EncList EncFlagPerm vs e →
      Reply .flags (.flags vs) (spell (b!"FLAGS ") m ++ e)
  | internalDate (m : List Bool) (s e : Bytes) : EncString s e → validUtf8 s = true →
      Reply .internalDate (.internalDate s) (spell (b!"INTERNALDATE ") m ++ e)
  | modSeq (m : List Bool) (n : Nat) (e : Bytes) : n < 2 ^ 64 → EncNumber n e →
      Reply .modSeq (.modSeq n) (spell (b!"MODSEQ ") m ++ ([40] ++ e ++ [41]))
  | rfc822 (m : List Bool) (v : Option Bytes) (e : Bytes) : EncNString v e →
      Reply .rfc822 (.rfc822 v) (spell (b!"RFC822 ") m ++ e)
  | rfc822Size (m : List Bool) (n : Nat) (e : Bytes) : n < 2 ^ 32 → EncNumber n e →
      Reply .rfc822Size (.rfc822Size n) (spell (b!"RFC822.SIZE ") m ++ e)
  | rfc822Text (m : List Bool) (v : Option Bytes) (e : Bytes) : EncNString v e →
      Reply .rfc822Text (.rfc822Text v) (spell (b!"RFC822.TEXT ") m ++ e)
  | uid (m : List Bool) (n : Nat) (e : Bytes) : n < 2 ^ 32 → EncNumber n e →
      Reply .uid (.uid n) (spell (b!"UID ") m ++ e)
  | gmailLabels (m : List Bool) (vs : List Bytes) (e : Bytes) : EncList EncLabel vs e →
      Reply .gmailLabels (.gmailLabels vs) (spell (b!"X-GM-LABELS ") m ++ e)
  | gmailMsgId (m : List Bool) (n : Nat) (e : Bytes) : n < 2 ^ 64 → EncNumber n e →
      Reply .gmailMsgId (.gmailMsgId n) (spell (b!"X-GM-MSGID ") m ++ e)

theorem Reply.enc {a : Attribute} {v : AttributeValue} {e : Bytes} (h : Reply a v e) : EncAttr v e := by
  cases h <;> constructor <;> assumption

/-- the alternative of `msg_att` that reads the answer to `a` -/
def reader : Attribute → Parser AttributeValue
  | .body => msgAttBody
  | .envelope => msgAttEnvelope
  | .flags => msgAttFlags
  | .internalDate => msgAttInternalDate
  | .modSeq => msgAttModSeq
  | .rfc822 => msgAttRfc822
  | .rfc822Size => msgAttRfc822Size
  | .rfc822Text => msgAttRfc822Text
  | .uid => msgAttUid
  | .gmailLabels => msgAttGmailLabels
  | .gmailMsgId => msgAttGmailMsgId

/-- the request table is the response table: the row of `msg_att`'s dispatch table (`RT.msgAttRows`) to which the
    name the builder sends, followed by a space, goes has just that keyword, and its parser is the reader of `a` -/
theorem reader_row (a : Attribute) :
    msgAttRows[kwRow msgAttRows (attrName a ++ b!" ")]? = some ([Tok.word (attrName a ++ b!" ")], reader a) := by
  cases a <;> rfl

theorem reader_first (a : Attribute) : First [.word (attrName a ++ b!" ")] (reader a) :=
  msgAtt_chain.row_first _ (List.mem_of_getElem? (reader_row a))

/-- the reader of `a` starts by matching exactly the name the builder sent, followed by a space; a keyword
    that differs from it at some position is a parse error of that alternative -/
theorem keyword_table_agrees (a : Attribute) (mask : List Bool) (u : Bytes) (r : Bytes)
    (h : mismatch (attrName a ++ b!" ") u = true) : reader a (spell u mask ++ r) = .err :=
  (reader_first a).err_mismatch h mask r

/-- every reply item answering `a` begins with the name the builder sent (in any case) and a space -/
theorem answer_keyword (a : Attribute) (v : AttributeValue) (e : Bytes) (h : Reply a v e) :
    ∃ mask tail, e = spell (attrName a ++ b!" ") mask ++ tail := by
  cases h <;> exact ⟨_, _, rfl⟩

/-- **every conformant reply item for every attribute the builder offers is read back exactly** -/
theorem item_readable (a : Attribute) (v : AttributeValue) (e : Bytes) (h : Reply a v e)
    (c : UInt8) (rest : Bytes) (hc : c = 32 ∨ c = 41) :
    msgAtt (e ++ c :: rest) = .ok v (c :: rest) :=
  msgAtt_enc h.enc (c :: rest) (.cons (by rcases hc with rfl | rfl <;> decide) rest)

/-- for every attribute a conformant answer exists, so the previous theorem is not vacuous for any -/
theorem answer_exists (a : Attribute) : ∃ v e, Reply a v e := by
  have nilEnv : EncEnvelope ⟨none, none, none, none, none, none, none, none, none, none⟩ _ :=
    EncEnvelope.mk _ _ _ _ _ _ _ _ _ _ _ (.nil []) (.nil []) (.nil []) (.nil []) (.nil []) (.nil [])
      (.nil []) (.nil []) (.nil []) (.nil [])
  have q0 : EncString [] _ := .quoted (by intro c hc; cases hc)
  have flds : EncFields ⟨none, none, none, .sevenBit, 0⟩ _ :=
    EncFields.mk _ _ _ _ _ _ (.nil []) (.nil []) (by intro s hs; cases hs) (.nil []) (by intro s hs; cases hs)
      (.sevenBit []) (by decide) (.mk 0)
  cases a with
  | body => exact ⟨_, _, .body [] _ _ (.text 32 [] [] _ _ _ 0 _ _ _ q0 (by decide) flds (by decide) (.mk 0) .l0)⟩
  | envelope => exact ⟨_, _, .envelope [] _ _ nilEnv⟩
  | flags => exact ⟨_, _, .flags [] _ _ .nil⟩
  | internalDate => exact ⟨_, _, .internalDate [] [] _ q0 (by decide)⟩
  | modSeq => exact ⟨_, _, .modSeq [] 0 _ (by decide) (.mk 0)⟩
  | rfc822 => exact ⟨_, _, .rfc822 [] none _ (.nil [])⟩
  | rfc822Size => exact ⟨_, _, .rfc822Size [] 0 _ (by decide) (.mk 0)⟩
  | rfc822Text => exact ⟨_, _, .rfc822Text [] none _ (.nil [])⟩
  | uid => exact ⟨_, _, .uid [] 0 _ (by decide) (.mk 0)⟩
  | gmailLabels => exact ⟨_, _, .gmailLabels [] _ _ .nil⟩
  | gmailMsgId => exact ⟨_, _, .gmailMsgId [] 0 _ (by decide) (.mk 0)⟩

/-- `List.Forall₂` of Batteries (core has none) -/
inductive Pairwise₂ {α β : Type} (R : α → β → Prop) : List α → List β → Prop
  | nil : Pairwise₂ R [] []
  | cons {a b as bs} : R a b → Pairwise₂ R as bs → Pairwise₂ R (a :: as) (b :: bs)

theorem Pairwise₂.forall_right {α β : Type} {R : α → β → Prop} {as : List α} {bs : List β} (h : Pairwise₂ R as bs) :
    ∀ b ∈ bs, ∃ a, R a b := by
  induction h with
  | nil => exact fun _ hb => nomatch hb
  | cons h _ ih => exact List.forall_mem_cons.2 ⟨⟨_, h⟩, ih⟩

theorem Pairwise₂.map_right {α β γ : Type} {R : α → β → Prop} {S : α → γ → Prop} {as : List α} {bs : List β}
    (h : Pairwise₂ R as bs) (f : β → γ) (hRS : ∀ a b, R a b → S a (f b)) : Pairwise₂ S as (bs.map f) := by
  induction h with
  | nil => exact .nil
  | cons h _ ih => exact .cons (hRS _ _ h) ih

/-- a complete reply - one conformant item per requested attribute, in the order requested - is
    parsed, and returns one value per item in that order -/
theorem reply_readable (n : Nat) (hn : n < 2 ^ 32) (z k : Nat) (mask : List Bool)
    (req : Attribute) (reqs : List Attribute)
    (first : Bytes × AttributeValue) (others : List (Bytes × AttributeValue))
    (hfirst : Reply req first.2 first.1)
    (hothers : Pairwise₂ (fun a x => Reply a x.2 x.1) reqs others) (rest : Bytes) :
    ∃ vs, parseResponse (b!"* " ++ ((List.replicate z 48 ++ decDigits n) ++ (spell (b!" FETCH ") mask ++
            ([40] ++ (first.1 ++ (others.map fun x => [32] ++ x.1).flatten) ++ [41])) ++
            (List.replicate k 32 ++ b!"\r\n")) ++ rest) = .ok (.fetch n vs) rest ∧
          Pairwise₂ (fun a v => ∃ e, Reply a v e) (req :: reqs) vs := by
  have hall : ∀ x ∈ first :: others, EncAttr x.2 x.1 :=
    List.forall_mem_cons.2 ⟨hfirst.enc, fun x hx => (hothers.forall_right x hx).elim fun _ h => h.enc⟩
  exact ⟨first.2 :: others.map (·.2),
    parseResponse_enc _ _ (.fetch _ _ k (.mk n _ mask _ _ hn (.mk z) (.mk first others hall))) rest,
    .cons ⟨_, hfirst⟩ (hothers.map_right _ fun _ _ h => ⟨_, h⟩)⟩

/-- RFC 3501 6.4.5: what a conformant server sends for each macro -/
def macroItems : AttrMacro → List Attribute
  | .all => [.flags, .internalDate, .rfc822Size, .envelope]
  | .fast => [.flags, .internalDate, .rfc822Size]
  | .full => [.flags, .internalDate, .rfc822Size, .envelope, .body]

/-- every macro expands to attributes of the builder's table, each of which has a readable answer -/
theorem macro_expansion_covered (m : AttrMacro) : ∀ a ∈ macroItems m, ∃ v e, Reply a v e :=
  fun a _ => answer_exists a

/-! non-vacuity: a reply to `FETCH 1 ALL` -/
set_option maxRecDepth 100000 in
example : parseResponse (b!"* 1 FETCH (FLAGS (\\Seen) INTERNALDATE \"17-Jul-1996 02:44:25 -0700\" RFC822.SIZE 4286 ENVELOPE (NIL \"s\" NIL NIL NIL NIL NIL NIL NIL \"<id>\"))\r\n")
    = .ok (.fetch 1 [.flags [b!"\\Seen"], .internalDate (b!"17-Jul-1996 02:44:25 -0700"), .rfc822Size 4286,
        .envelope ⟨none, some (b!"s"), none, none, none, none, none, none, none, some (b!"<id>")⟩]) [] := by rfl

set_option maxRecDepth 100000 in
/-- a non-extensible BODY answer as a server sends it (kernel evaluation; `item_readable` is the general theorem) -/
example : ∃ v, parseResponse (b!"* 1 FETCH (BODY (\"TEXT\" \"PLAIN\" (\"CHARSET\" \"US-ASCII\") NIL NIL \"7BIT\" 3028 92))\r\n") = .ok v [] := ⟨_, rfl⟩

end C16
