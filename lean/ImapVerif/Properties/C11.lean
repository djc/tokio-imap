/-
  C11 - Tags are valid, unique within a window, and matched exactly.
  The generator is `Builders.tagOf` (`IdGenerator::next`); exact matching is stated on the client model
  (`Client.Stream.pollNext`).
-/
import ImapVerif.Proofs.Tags
import ImapVerif.Proofs.ClientInv

open Bytes Builders

namespace C11

/-- every tag is a syntactically valid IMAP tag: non-empty, only tag characters (what the crate's own
    response parser accepts as `tag`) -/
theorem tag_valid (k : Nat) : tagOf k ≠ [] ∧ ∀ c ∈ tagOf k, Grammar.isTagChar c = true := by
  have digit : ∀ d, d < 10 → Grammar.isTagChar (digitOf d) = true := by decide
  refine ⟨List.cons_ne_nil _ _, fun c hc => ?_⟩
  simp only [tagOf, pad4, List.mem_cons, List.mem_nil_iff, or_false] at hc
  rcases hc with rfl | rfl | rfl | rfl | rfl
  · decide
  all_goals exact digit _ (Nat.mod_lt _ (by decide))

/-- any 10 000 tags issued consecutively on one connection are pairwise distinct (the counter is
    unbounded here; the Rust counter is a u64, so this covers the first 2^64 commands) -/
theorem tag_window_injective (i j : Nat) (hij : i < j) (hw : j < i + 10000) : tagOf i ≠ tagOf j := by
  intro h
  have := (Tags.tagOf_eq_iff i j).1 h
  omega

/-- the tag is a function of the counter modulo 10 000 (the period of the generator) -/
theorem tag_period (k : Nat) : tagOf (k + 10000) = tagOf k :=
  (Tags.tagOf_eq_iff _ _).2 (Nat.add_mod_right k 10000)

example : tagOf 1 = b!"A0001" := by decide
example : tagOf 10000 = b!"A0000" := by decide
example : tagOf 12345 = b!"A2345" := by decide

open Client ClientInv

/-- the k-th command of a connection (k = 1, 2, …) gets the tag `tagOf k` -/
theorem call_tag (c : Conn) (args : Bytes) :
    (c.call args).2.tag = tagOf (c.issued + 1) ∧ (c.call args).1.issued = c.issued + 1 := ⟨rfl, rfl⟩

/-- polling never changes the tag counter or the stream's own tag -/
theorem poll_keeps_tags (s : RStream) (c : Conn) (rs : List REv) (ws : List WEv) :
    (Stream.pollNext s c rs ws).c.issued = c.issued ∧ (Stream.pollNext s c rs ws).s.tag = s.tag :=
  pollNext_keeps s c rs ws

/-- a command is treated as complete only by a tagged response whose tag is byte-for-byte its own -/
theorem completion_iff_equal (s : RStream) (c : Conn) (rs : List REv) (ws : List WEv) (h : s.st ≠ .done) :
    (Stream.pollNext s c rs ws).s.st = .done ↔
      ∃ f, (Stream.pollNext s c rs ws).res = .item (.frame f) ∧ requestId f.value = some s.tag :=
  pollNext_done_iff s c rs ws h

/-- completions carrying any other tag - stale, differing in case, a prefix or an extension of the
    right one - and untagged responses are handed through as ordinary items: the stream stays open -/
theorem lookalike_passed_through (s : RStream) (c : Conn) (rs : List REv) (ws : List WEv) (h : s.st ≠ .done)
    (f : Frame) (hres : (Stream.pollNext s c rs ws).res = .item (.frame f))
    (hne : requestId f.value ≠ some s.tag) : (Stream.pollNext s c rs ws).s.st ≠ .done := by
  intro hd
  obtain ⟨f', hf', hq⟩ := (completion_iff_equal s c rs ws h).mp hd
  rw [hres] at hf'
  cases hf'
  exact hne hq

/-- `requestId` is the tag of a tagged response and nothing else; equality is equality of byte strings -/
theorem requestId_spec (v : Response) (t : Bytes) :
    requestId v = some t ↔ ∃ st code info, v = .done t st code info := by
  constructor
  · intro h
    unfold requestId at h
    split at h <;> cases h
    exact ⟨_, _, _, rfl⟩
  · rintro ⟨st, code, info, rfl⟩
    rfl

example : requestId (.done (b!"a0001") .ok none none) ≠ some (b!"A0001") := by decide

end C11
