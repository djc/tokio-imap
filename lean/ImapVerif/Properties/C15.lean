/-
  C15 - Taking ownership of a response preserves its value.
  `Owned.*` are the models of the hand-written `into_owned` functions (field by field, in the field
  order of the source).  Each is the identity on the model's values; the correspondence check ties
  every one of them to the Rust function of the same name.
  Not provable here (observed by the harness): that the owned copy survives the source buffer being
  overwritten and freed - that is memory behaviour of `Cow::Owned`.
-/
import ImapVerif.OwnedParts

namespace C15

open Owned

/-! Every conversion is the identity *function* on the model's values (`to_owned_cow` copies).  Stated
    that way (`f = id`, simp lemmas), a conversion applied under `List.map` / `Option.map` disappears by
    the functor laws of core, and each theorem below is: unfold and simplify, after splitting the value if
    its type has several constructors (a record equals its field-by-field copy by eta). -/

@[simp] theorem cow_eq : cow = id := rfl

theorem capability_id (c : Capability) : capability c = c := by cases c <;> rfl
@[simp] theorem capability_eq : capability = id := funext capability_id

theorem responseCode_id (c : ResponseCode) : responseCode c = c := by cases c <;> simp [responseCode]
@[simp] theorem responseCode_eq : responseCode = id := funext responseCode_id

theorem nameAttribute_id (a : NameAttribute) : nameAttribute a = a := by cases a <;> rfl
@[simp] theorem nameAttribute_eq : nameAttribute = id := funext nameAttribute_id

theorem mailboxDatum_id (d : MailboxDatum) : mailboxDatum d = d := by cases d <;> simp [mailboxDatum]

theorem address_id (a : Address) : address a = a := by simp [address]
@[simp] theorem address_eq : address = id := funext address_id

theorem envelope_id (e : Envelope) : envelope e = e := by simp [envelope]

theorem bodyParams_id (p : BodyParams) : bodyParams p = p := by simp [bodyParams]

theorem contentType_id (t : ContentType) : contentType t = t := by simp [contentType, bodyParams_id]

theorem contentDisposition_id (d : ContentDisposition) : contentDisposition d = d := by
  simp [contentDisposition, bodyParams_id]
@[simp] theorem contentDisposition_eq : contentDisposition = id := funext contentDisposition_id

theorem contentEncoding_id (e : ContentEncoding) : contentEncoding e = e := by cases e <;> rfl

theorem common_id (c : BodyContentCommon) : common c = c := by simp [common, contentType_id]

theorem single_id (o : BodyContentSinglePart) : single o = o := by simp [single, contentEncoding_id]

mutual
  theorem bodyExtension_id : ∀ e : BodyExtension, bodyExtension e = e
    | .num _ => rfl
    | .str s => by simp [bodyExtension]
    | .list v => by simp [bodyExtension, bodyExtensions_id v]
  theorem bodyExtensions_id : ∀ v : List BodyExtension, bodyExtensions v = v
    | [] => rfl
    | x :: xs => by simp [bodyExtensions, bodyExtension_id x, bodyExtensions_id xs]
end

theorem optExt_id (e : Option BodyExtension) : optExt e = e := by
  cases e <;> simp [optExt, bodyExtension_id]

mutual
  theorem bodyStructure_id : ∀ b : BodyStructure, bodyStructure b = b
    | .basic c o e => by simp [bodyStructure, common_id, single_id, optExt_id]
    | .text c o l e => by simp [bodyStructure, common_id, single_id, optExt_id]
    | .message c o env b l e => by
      simp [bodyStructure, common_id, single_id, optExt_id, envelope_id, bodyStructure_id b]
    | .multipart c bs e => by simp [bodyStructure, common_id, optExt_id, bodyStructures_id bs]
  theorem bodyStructures_id : ∀ v : List BodyStructure, bodyStructures v = v
    | [] => rfl
    | x :: xs => by simp [bodyStructures, bodyStructure_id x, bodyStructures_id xs]
end

theorem attributeValue_id (a : AttributeValue) : attributeValue a = a := by
  cases a <;> simp [attributeValue, bodyStructure_id, envelope_id]
@[simp] theorem attributeValue_eq : attributeValue = id := funext attributeValue_id

theorem aclEntry_id (e : AclEntry) : aclEntry e = e := rfl
@[simp] theorem aclEntry_eq : aclEntry = id := funext aclEntry_id
theorem acl_id (a : Acl) : acl a = a := by simp [acl]
theorem listRights_id (r : ListRights) : listRights r = r := rfl
theorem myRights_id (r : MyRights) : myRights r = r := rfl
theorem quotaResourceName_id (n : QuotaResourceName) : quotaResourceName n = n := by cases n <;> rfl
theorem quotaResource_id (r : QuotaResource) : quotaResource r = r := by
  simp [quotaResource, quotaResourceName_id]
@[simp] theorem quotaResource_eq : quotaResource = id := funext quotaResource_id
theorem quota_id (q : Quota) : quota q = q := by simp [quota]
theorem quotaRoot_id (q : QuotaRoot) : quotaRoot q = q := by simp [quotaRoot]

/-- **C15**: `Response::into_owned` (and with it every `into_owned` below it) preserves the value:
    every field, every element, in place -/
theorem intoOwned_id (v : Response) : response v = v := by
  cases v <;> simp [response, mailboxDatum_id, quota_id, quotaRoot_id, acl_id, listRights_id, myRights_id]

/-- the three public building blocks of a body structure that `Response::into_owned` does not reach -/
theorem bodyFields_id (f : Grammar.BodyFields) : bodyFields f = f := by
  simp [bodyFields, bodyParams_id, contentEncoding_id]

theorem bodyExt1Part_id (x : Grammar.BodyExt1Part) : bodyExt1Part x = x := by
  simp [bodyExt1Part, optExt_id]

theorem bodyExtMPart_id (x : Grammar.BodyExtMPart) : bodyExtMPart x = x := by
  simp [bodyExtMPart, bodyParams_id, optExt_id]

end C15
