/-
  C03 - Parse fidelity: the value returned is exactly what the server sent.

  Full statement (for the record):
      for every response value `r` of the response type tree and every RFC-conformant wire
      encoding `e` of it, for every continuation `rest`:
          parseResponse (e ++ rest) = ok r rest
      i.e. exactly that value (every field in its own slot, every list element present and in
      order, numbers and byte strings unchanged) and exactly that encoding consumed.

  "RFC-conformant wire encoding" is made precise by the relational printer `RT.EncResponse`
  (Proofs/RT/*.lean): its constructors are the spelling choices of RFC 3501 section 9 and of the
  extensions, each parameterised by keyword case masks, string forms (quoted / literal / atom
  where allowed / NIL), zero padding of numerals and the tolerated deviations.

  What is proved (`fidelity`): the statement for every response the relation covers, which is every
  production of the response grammar the parser implements:
      * FETCH with every attribute: BODY[section]<origin>, BODYSTRUCTURE / BODY (text, message/rfc822,
        basic and multipart parts, body fields, parameters, encoding, disposition, language, location,
        extension data, nested to the depth budget), ENVELOPE (ten fields; address lists of any length),
        INTERNALDATE, FLAGS, MODSEQ, RFC822, RFC822.HEADER, RFC822.SIZE, RFC822.TEXT, UID, X-GM-LABELS,
        X-GM-MSGID, in any number and order;
      * mailbox data: EXISTS, RECENT, FLAGS, SEARCH, SORT, LIST, LSUB, STATUS, X-GM-LABELS, X-GM-MSGID,
        METADATA (solicited and unsolicited);
      * EXPUNGE, CAPABILITY, ENABLED, VANISHED, QUOTA, QUOTAROOT, ID, ACL, LISTRIGHTS, MYRIGHTS;
      * untagged status responses, tagged completions and continuation requests with all 19 response
        codes and the forms `[code] text`, `[code]`, `text`, nothing.
  Residual restrictions, all visible as hypotheses of the relation's constructors (they delimit
  "RFC-conformant encoding of a value of the crate's types", they are not gaps of the proof):
      * quoted strings hold no `"` or `\` (the property sends those in literal form); literals hold no
        NUL and are shorter than 2^32 (the code's own limits, C08 / C13); a string the crate holds as
        `str` is valid UTF-8 (`validUtf8 .. = true`);
      * body structures nest at most MAX_NESTING = 32 deep (fix F3);
      * a basic body part's media type, when quoted, is not TEXT or MESSAGE/RFC822 (those have forms of
        their own); a content transfer encoding given as `other` is, when quoted, not one of the five keywords;
      * human-readable text without a code does not begin with `[`;
      * values the crate's types cannot hold are identified as the types do: HEADER.FIELDS names and
        ID pairs with NIL value are dropped, LIST attributes / capabilities / quota resources are
        classified by their complete atom, INBOX is folded, a range high:low is the set low:high.
-/
import ImapVerif.Proofs.RT.Resp

open Bytes Parser Grammar RT

namespace C03

/-- fidelity for every covered response: the value and the consumed length are exactly those sent -/
theorem fidelity (r : Response) (e : Bytes) (h : EncResponse r e) (rest : Bytes) :
    parseResponse (e ++ rest) = .ok r rest :=
  parseResponse_enc r e h rest

/-- ... in particular a complete encoding standing alone is consumed entirely -/
theorem fidelity_alone (r : Response) (e : Bytes) (h : EncResponse r e) :
    parseResponse e = .ok r [] := by
  simpa using parseResponse_enc r e h []

/-- every field of an address lands in its own slot -/
theorem address_fidelity (a : Address) (e : Bytes) (h : EncAddress a e) (rest : Bytes) :
    address (e ++ rest) = .ok a rest := address_enc a e h Any rest trivial

/-- address lists: every element present, in order -/
theorem addresses_fidelity (v : Option (List Address)) (e : Bytes) (h : EncAddresses v e) (rest : Bytes) :
    optAddresses (e ++ rest) = .ok v rest := optAddresses_enc h Any rest trivial

/-- the envelope's ten fields land in their own slots (date, subject, from, sender, reply-to, to,
    cc, bcc, in-reply-to, message-id), whatever the spelling of each -/
theorem envelope_fidelity (v : Envelope) (e : Bytes) (h : EncEnvelope v e) (rest : Bytes) :
    envelope (e ++ rest) = .ok v rest := envelope_enc h Any rest trivial

/-- a fetch attribute inside the list (followed by a space or the closing parenthesis) -/
theorem attribute_fidelity (v : AttributeValue) (e : Bytes) (h : EncAttr v e) (c : UInt8) (rest : Bytes)
    (hc : c = 32 ∨ c = 41) : msgAtt (e ++ c :: rest) = .ok v (c :: rest) :=
  msgAtt_enc h (c :: rest) (.cons (by rcases hc with rfl | rfl <;> decide) rest)

/-- body structures: every field of every part in its own slot, children in order, to any depth
    within the nesting budget (33 = the outermost level plus MAX_NESTING) -/
theorem body_structure_fidelity (v : BodyStructure) (e : Bytes) (h : EncBody 33 v e) (rest : Bytes) :
    body (e ++ rest) = .ok v rest := body_enc h Any rest trivial

/-- numbers: any zero padding, value unchanged (32-bit and 64-bit fields) -/
theorem number_fidelity (n : Nat) (hn : n < 2 ^ 32) (e : Bytes) (h : EncNumber n e) (c : UInt8) (rest : Bytes)
    (hc : isDigit c = false) : number (e ++ c :: rest) = .ok n (c :: rest) :=
  number_enc (2 ^ 32) hn h (c :: rest) (.cons (by simp [notDigit, hc]) rest)

theorem number64_fidelity (n : Nat) (hn : n < 2 ^ 64) (e : Bytes) (h : EncNumber n e) (c : UInt8) (rest : Bytes)
    (hc : isDigit c = false) : number64 (e ++ c :: rest) = .ok n (c :: rest) :=
  number_enc (2 ^ 64) hn h (c :: rest) (.cons (by simp [notDigit, hc]) rest)

/-- byte strings: every form of an nstring returns the bytes unchanged -/
theorem nstring_fidelity (v : Option Bytes) (e : Bytes) (h : EncNString v e) (rest : Bytes) :
    nstring (e ++ rest) = .ok v rest := nstring_enc v e h rest trivial

/-! ### the hypotheses are satisfiable: a concrete response in a non-canonical spelling -/

theorem decDigits_small : decDigits 12 = b!"12" ∧ decDigits 7 = b!"7" ∧ decDigits 44827 = b!"44827" := by
  refine ⟨?_, ?_, ?_⟩ <;> simp [decDigits, digitOf]

example : EncResponse (.fetch 12 [.uid 7, .rfc822Size 44827, .rfc822 none])
    (b!"* 12 fetch (uid 007 RFC822.SIZE 44827 RFC822 nil) \r\n") := by
  have ha : ∀ x ∈ [(_, AttributeValue.uid 7), (_, .rfc822Size 44827), (_, .rfc822 none)], EncAttr x.2 x.1 :=
    List.forall_mem_cons.2 ⟨.uid [true, true, true] 7 _ (by decide) (.mk 2),
      List.forall_mem_cons.2 ⟨.rfc822Size [] 44827 _ (by decide) (.mk 0),
        List.forall_mem_singleton.2 (.rfc822 [] none _ (.nil [true, true, true]))⟩⟩
  have := EncResponse.fetch _ _ 1 (.mk 12 _ [false, true, true, true, true, true] _ _ (by decide) (.mk 0) (.mk _ _ ha))
  simpa [spell, flipCase, decDigits_small] using this

/-- and the parser indeed returns it (kernel evaluation of the model on the same bytes) -/
example : parseResponse (b!"* 12 fetch (uid 007 RFC822.SIZE 44827 RFC822 nil) \r\n") =
    .ok (.fetch 12 [.uid 7, .rfc822Size 44827, .rfc822 none]) [] := by rfl

end C03
