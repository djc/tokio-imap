/-
  C08 - Literal content is opaque: message bytes cannot forge or break protocol framing.

  Full statement: for every response with a literal-capable position and every replacement
  content `s` of that literal (any bytes except NUL), the parser takes exactly `|s|` bytes as that
  field's value, and everything else about the parse - the other fields, where the response ends,
  what follows - is unchanged.

  Shape of the proof: the printer relation (`RT.EncString.literal`) admits *every* NUL-free content
  below 2^32 bytes in every string position (`literal_admissible`; a position whose value the crate
  holds as `str` demands valid UTF-8 of it in every form, literal or not: mailbox names, metadata,
  ID, ACL, quota roots, INTERNALDATE, body-structure strings); the fidelity theorem of C03 then
  says the value is exactly that content and the continuation `rest` is exactly what followed - for
  every `rest`, including further responses and protocol look-alikes.  The content is never
  scanned: `literal_verbatim` has no hypothesis about CR, LF, quotes, parentheses or braces in `s`.

  Proved: `literal_verbatim` (the leaf, all contents), `literal_admissible`, and non-interference
  (`literal_noninterference`) for every response covered by `RT.EncResponse`, i.e. every response
  kind of the grammar and every literal-capable position in it (body sections, RFC822*, envelope
  and address strings, body-structure strings, mailbox names, metadata values and entries, ID keys
  and values, ACL identifiers, quota roots ...): wherever the relation uses `EncString`,
  `EncNString` or `EncAString`, the literal form with arbitrary NUL-free content is admitted.
  The NUL exclusion is the code's (`is_char8`), and is itself a theorem: `literal_refuses_nul`.
  Through the codec: `codec_cuts_at_encoding` and `codec_frames_are_the_responses` (any chunking).
-/
import ImapVerif.Proofs.CodecRT

open Bytes Parser Grammar RT

namespace C08

/-- the wire form of a literal with content `s` (zero padding `z` of the length) -/
def lit (z : Nat) (s : Bytes) : Bytes :=
  b!"{" ++ (List.replicate z 48 ++ decDigits s.length) ++ b!"}\r\n" ++ s

/-- the leaf: exactly `|s|` bytes are taken, whatever they are (no NUL), whatever follows -/
theorem literal_verbatim (s : Bytes) (z : Nat) (hs : ∀ c ∈ s, c ≠ 0) (hl : s.length < 2 ^ 32) (rest : Bytes) :
    literal (lit z s ++ rest) = .ok s rest :=
  literal_enc (EncLiteral.mk z) ⟨hs, hl⟩ rest trivial

/-- every NUL-free content is admissible in every string / nstring / astring position -/
theorem literal_admissible (s : Bytes) (z : Nat) (hs : ∀ c ∈ s, c ≠ 0) (hl : s.length < 2 ^ 32) :
    EncString s (lit z s) ∧ EncNString (some s) (lit z s) ∧ EncAString s (lit z s) :=
  have h : EncString s (lit z s) := EncString.literal _ (EncLiteral.mk z) ⟨hs, hl⟩
  ⟨h, EncNString.some s _ h, EncAString.str _ h⟩

/-- non-interference at response level: the statement of `C03.fidelity`, read for literals - `EncResponse` admits
    every NUL-free content at every literal (`literal_admissible`), so whatever the literals hold the response is
    parsed to its own value, ends where its encoding ends, and what follows is left exactly as sent -/
theorem literal_noninterference (r : Response) (e : Bytes) (h : EncResponse r e) (rest : Bytes) :
    parseResponse (e ++ rest) = .ok r rest := parseResponse_enc r e h rest

/-- an explicit instance of the above: the RFC822 attribute with arbitrary content -/
theorem rfc822_literal_opaque (n : Nat) (hn : n < 2 ^ 32) (s : Bytes) (z k : Nat)
    (hs : ∀ c ∈ s, c ≠ 0) (hl : s.length < 2 ^ 32) (rest : Bytes) :
    parseResponse (b!"* " ++ (decDigits n ++ (b!" FETCH " ++ (b!"(" ++ (b!"RFC822 " ++ lit z s) ++ b!")")) ++
        (List.replicate k 32 ++ b!"\r\n")) ++ rest)
      = .ok (.fetch n [.rfc822 (some s)]) rest := by
  have ha := EncAttrs.mk (_, .rfc822 (some s)) []
    (List.forall_mem_singleton.2 (.rfc822 [] _ _ (literal_admissible s z hs hl).2.1))
  have := parseResponse_enc _ _ (.fetch _ _ k (.mk n _ [] _ _ hn (.mk 0) ha)) rest
  simpa [spell] using this

/-- an envelope subject with arbitrary content: all ten fields still land in their slots -/
theorem envelope_subject_literal_opaque (v : Envelope) (s : Bytes) (z : Nat)
    (hs : ∀ c ∈ s, c ≠ 0) (hl : s.length < 2 ^ 32)
    (e1 e3 e4 e5 e6 e7 e8 e9 e10 : Bytes)
    (h1 : EncNString v.date e1) (hsub : v.subject = some s) (h3 : EncAddresses v.from_ e3)
    (h4 : EncAddresses v.sender e4) (h5 : EncAddresses v.replyTo e5) (h6 : EncAddresses v.to e6)
    (h7 : EncAddresses v.cc e7) (h8 : EncAddresses v.bcc e8) (h9 : EncNString v.inReplyTo e9)
    (h10 : EncNString v.messageId e10) (rest : Bytes) :
    envelope ([40] ++ (e1 ++ b!" " ++ lit z s ++ b!" " ++ e3 ++ b!" " ++ e4 ++ b!" " ++ e5 ++ b!" " ++ e6 ++
        b!" " ++ e7 ++ b!" " ++ e8 ++ b!" " ++ e9 ++ b!" " ++ e10) ++ [41] ++ rest) = .ok v rest := by
  have h2 : EncNString v.subject (lit z s) := hsub ▸ (literal_admissible s z hs hl).2.1
  exact envelope_enc (EncEnvelope.mk v e1 (lit z s) e3 e4 e5 e6 e7 e8 e9 e10 h1 h2 h3 h4 h5 h6 h7 h8 h9 h10)
    Any rest trivial

/-- the only refusal: a NUL byte inside the announced length is a parse error of the field -/
theorem literal_refuses_nul (s : Bytes) (z : Nat) (hl : s.length < 2 ^ 32) (hs : 0 ∈ s) (rest : Bytes) :
    literal (lit z s ++ rest) = .err := by
  rw [lit, literal_eval s z hl rest, if_neg]
  exact fun h => absurd (List.all_eq_true.1 h 0 hs) (by decide)

/-- the codec cuts the frame at the length of the encoding, whatever its literals contain -/
theorem codec_cuts_at_encoding (r : Response) (e : Bytes) (h : EncResponse r e) (rest : Bytes) :
    Client.decodeC (e ++ rest) = .frame ⟨e, r⟩ rest := CodecRT.decodeC_enc h rest

/-- **message content cannot desynchronise the connection**: a transport that delivers the encodings
    of `items` - cut into reads in any way, with Pending anywhere - makes the framed codec deliver
    exactly those responses (value and bytes), in order; what follows them is framed as if it
    stood alone.  There is no hypothesis on the contents of literals beyond NUL-freeness. -/
theorem codec_frames_are_the_responses (k : Nat) (rs : List Client.REv) (res : List Client.PollR) (s' : Client.Rd)
    (rs' : List Client.REv) (items : List (Response × Bytes)) (hall : ∀ x ∈ items, EncResponse x.1 x.2)
    (tail : Bytes) (hdata : Framed.dataOf rs = (items.map (·.2)).flatten ++ tail)
    (h : Framed.polls k {} rs = (res, s', rs')) (hne : ∀ r ∈ res, r ≠ .item .error) :
    Framed.framesOf res ++ Framed.ideal (s'.rbuf ++ Framed.dataOf rs') =
      CodecRT.framesOfEncs items ++ Framed.ideal tail := by
  rw [← CodecRT.ideal_encodings items hall tail, ← hdata]
  simpa using (Framed.polls_ideal k {} rs res s' rs' h rfl Framed.settled_fresh hne).1

/-! ### non-vacuity: a protocol look-alike as content -/

/-- the content `)\r\nA0001 OK done\r\n` (a forged tagged completion) is just 18 bytes of value -/
example : parseResponse (b!"* 1 FETCH (RFC822 {18}\r\n)\r\nA0001 OK done\r\n)\r\nA0002 OK real\r\n") =
    .ok (.fetch 1 [.rfc822 (some (b!")\r\nA0001 OK done\r\n"))]) (b!"A0002 OK real\r\n") := by rfl

example : ∀ c ∈ (b!")\r\nA0001 OK done\r\n{5}\r\n\"(("), c ≠ 0 := by decide

end C08
