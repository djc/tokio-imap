/-
  C13 - Numbers are converted exactly or rejected, never wrapped.
  Every numeric field of the model is produced by `number` (32-bit) or `number64` (64-bit), both
  instances of `numberB`; the length of a literal goes through `number`.
-/
import ImapVerif.Proofs.CodeText
import ImapVerif.Proofs.NumReject

open Bytes Parser Grammar

namespace C13

/-- 32-bit fields: whatever `number` accepts is exactly the value of the digits it consumed, and it
    is below 2^32 (no wrap, no truncation, no saturation) -/
theorem number_sound (b : Bytes) (n : Nat) (r : Bytes) (h : number b = .ok n r) :
    ∃ ds, b = ds ++ r ∧ ds ≠ [] ∧ (∀ d ∈ ds, isDigit d = true) ∧ decVal ds = n ∧ n < 2 ^ 32 := by
  obtain ⟨ds, h1, h2, h3, h4, h5, _⟩ := Num.numberB_sound h
  exact ⟨ds, h1, h2, h3, h4, h5⟩

theorem number64_sound (b : Bytes) (n : Nat) (r : Bytes) (h : number64 b = .ok n r) :
    ∃ ds, b = ds ++ r ∧ ds ≠ [] ∧ (∀ d ∈ ds, isDigit d = true) ∧ decVal ds = n ∧ n < 2 ^ 64 := by
  obtain ⟨ds, h1, h2, h3, h4, h5, _⟩ := Num.numberB_sound h
  exact ⟨ds, h1, h2, h3, h4, h5⟩

/-- every numeral of a number below 2^32, with any number of leading zeros, followed by a non-digit,
    yields precisely that number -/
theorem number_complete (n z : Nat) (hn : n < 2 ^ 32) (c : UInt8) (r : Bytes) (hc : isDigit c = false) :
    number (List.replicate z 48 ++ decDigits n ++ c :: r) = .ok n (c :: r) :=
  Num.numberB_complete (2 ^ 32) n z hn c r hc

theorem number64_complete (n z : Nat) (hn : n < 2 ^ 64) (c : UInt8) (r : Bytes) (hc : isDigit c = false) :
    number64 (List.replicate z 48 ++ decDigits n ++ c :: r) = .ok n (c :: r) :=
  Num.numberB_complete (2 ^ 64) n z hn c r hc

/-- a numeral beyond the range is a parse error at the field, whatever follows -/
theorem number_rejects (ds : Bytes) (hne : ds ≠ []) (hall : ∀ d ∈ ds, isDigit d = true)
    (hbig : 2 ^ 32 ≤ decVal ds) (c : UInt8) (r : Bytes) (hc : isDigit c = false) :
    number (ds ++ c :: r) = .err :=
  Num.numberB_rejects (2 ^ 32) ds hall hbig c r hc

theorem number64_rejects (ds : Bytes) (hne : ds ≠ []) (hall : ∀ d ∈ ds, isDigit d = true)
    (hbig : 2 ^ 64 ≤ decVal ds) (c : UInt8) (r : Bytes) (hc : isDigit c = false) :
    number64 (ds ++ c :: r) = .err :=
  Num.numberB_rejects (2 ^ 64) ds hall hbig c r hc

/-- a field that does not start with a digit - a sign, a letter, anything - is not a number:
    there is no second conversion behind `number` that could give `-1` a value -/
theorem number_needs_digit (bound : Nat) (c : UInt8) (r : Bytes) (hc : isDigit c = false) :
    numberB bound (c :: r) = .err :=
  (RT.First.number bound).err_byte (by simpa [RT.Tok.missByte] using hc) r

example : number (b!"-1 ") = .err := number_needs_digit _ _ _ (by decide)

/-- the length of a literal is exact: `{n}CRLF` (any zero padding) followed by n non-NUL bytes yields
    exactly those n bytes and leaves exactly what follows them -/
theorem literal_length_exact (s : Bytes) (z : Nat) (hs : ∀ c ∈ s, c ≠ 0) (hl : s.length < 2 ^ 32)
    (rest : Bytes) :
    literal (b!"{" ++ (List.replicate z 48 ++ decDigits s.length) ++ b!"}\r\n" ++ s ++ rest)
      = .ok s rest :=
  RT.literal_enc (.mk z) ⟨hs, hl⟩ rest trivial

/-- a literal whose announced length does not fit 32 bits is a parse error (it is never wrapped to
    a shorter length, which would mis-frame the stream) -/
theorem literal_length_overflow (ds : Bytes) (hne : ds ≠ []) (hall : ∀ d ∈ ds, isDigit d = true)
    (hbig : 2 ^ 32 ≤ decVal ds) (r : Bytes) :
    literal (b!"{" ++ ds ++ b!"}" ++ r) = .err := by
  rw [List.append_assoc, List.append_assoc]
  exact (Parser.bind_ok _ (RT.tag_ok (b!"{") _ trivial)).trans
    (Parser.bind_err _ (number_rejects ds hne hall hbig 125 r (by decide)))

/-! non-vacuity and boundary instances -/
example : number (b!"4294967295 ") = .ok 4294967295 (b!" ") := by rfl
example : number (b!"4294967296 ") = .err := by rfl
example : number (b!"0000000000000000000000000000004294967295 ") = .ok 4294967295 (b!" ") := by rfl
example : number64 (b!"18446744073709551615)") = .ok 18446744073709551615 (b!")") := by rfl
example : number64 (b!"18446744073709551616)") = .err := by rfl
/-- 2^32 + 5 is not 5 -/
example : parseResponse (b!"* 4294967301 EXISTS\r\n") = .err := by rfl
/-- inside a bracketed response code an out-of-range numeral leaves the code unparsed: the text is
    handed over verbatim -/
example : parseResponse (b!"* OK [UIDNEXT 4294967296] x\r\n")
    = .ok (.data .ok none (some (b!"[UIDNEXT 4294967296] x"))) [] := by rfl

/-! ### response level: an out-of-range numeral inside a bracketed code leaves the code as text -/

open RT in
/-- `* OK [UIDNEXT 4294967296] text` (any status, any of UIDVALIDITY / UIDNEXT / UNSEEN beyond 2^32-1 or
    HIGHESTMODSEQ beyond 2^64-1, any keyword case, any number of digits): the response is a status
    response *without* a code whose text is the complete bracketed string - the number is not
    wrapped, not truncated and not silently turned into another code -/
theorem status_line_code_overflow (st : Status) (ms : List Bool) (k : NumCode) (m : List Bool) (ds : Bytes)
    (hne : ds ≠ []) (hall : ∀ d ∈ ds, isDigit d = true) (hbig : k.bound ≤ decVal ds) (t : Bytes) (ht : IsText t)
    (rest : Bytes) :
    parseResponse (b!"* " ++ ((spell (statusKw st) ms ++ (b!" " ++ (b!"[" ++ (spell k.kw m ++ (ds ++ (b!"]" ++ t)))))) ++
        b!"\r\n") ++ rest)
      = .ok (.data st none (some (b!"[" ++ (spell k.kw m ++ (ds ++ (b!"]" ++ t)))))) rest :=
  parseResponse_status st ms
    (trailingRespText_some fun _ hr => respText_overflow_is_text k m ds hall hbig ht hr) rest

/-- non-vacuity of the hypotheses, and the concrete instance -/
example : RT.NumCode.uidNext.bound ≤ decVal (b!"4294967296") := by decide
example : parseResponse (b!"* OK [UIDNEXT 4294967296] x\r\n") =
    .ok (.data .ok none (some (b!"[UIDNEXT 4294967296] x"))) [] := by rfl

/-! ### response level: an out-of-range numeral in front of the response, or in a FETCH attribute -/

/-- `* <numeral beyond 32 bits> ...` - whatever follows the numeral (EXISTS, RECENT, EXPUNGE, FETCH (...),
    anything) - is a parse error of the whole response parser: no alternative gives it a value -/
theorem untagged_number_overflow (ds : Bytes) (hne : ds ≠ []) (hall : ∀ d ∈ ds, isDigit d = true)
    (hbig : 2 ^ 32 ≤ decVal ds) (c : UInt8) (r : Bytes) (hc : isDigit c = false) :
    parseResponse (b!"* " ++ (ds ++ c :: r)) = .err :=
  RT.parseResponse_err_big ⟨ds, c, r, rfl, hne, hall, hbig, hc⟩

/-- `* n FETCH (UID <too big>`, `(RFC822.SIZE <too big>` (32 bits), `(MODSEQ (<too big>`, `(X-GM-MSGID <too big>`
    (64 bits), in every spelling of the keywords and for every sequence number `n` with any leading
    zeros: a parse error of the whole response parser -/
theorem fetch_attribute_overflow (n : Nat) (hn : n < 2 ^ 32) (z : Nat) (mf : List Bool) (a : RT.NumAttr) (m : List Bool)
    (i : Bytes) (h : a.Big i) :
    parseResponse (b!"* " ++ ((List.replicate z 48 ++ decDigits n) ++ (RT.spell (b!" FETCH ") mf ++ 40 :: (RT.spell a.kw m ++ i))))
      = .err :=
  RT.parseResponse_fetch_err hn (.mk z) mf _ (RT.msgAtt_err_big m h)

/-- non-vacuity: concrete instances of the two theorems, and what the parser says on them -/
example : parseResponse (b!"* 4294967296 EXISTS\r\n") = .err :=
  untagged_number_overflow (b!"4294967296") (by decide) (by decide) (by decide) 32 (b!"EXISTS\r\n") (by decide)
example : RT.NumAttr.uid.Big (b!"4294967296)\r\n") :=
  ⟨b!"4294967296", 41, b!"\r\n", rfl, by decide, by decide, by decide, by decide⟩
example : parseResponse (b!"* 1 FETCH (UID 4294967296)\r\n") = .err := by rfl
example : parseResponse (b!"* 1 FETCH (MODSEQ (18446744073709551616))\r\n") = .err := by rfl

/-- the same at any later position: after any number of well-formed attributes (every attribute form
    of the grammar, `RT.EncAttr`), `SP UID <too big>` etc. makes the whole response a parse error -
    the value parsed so far is not delivered with the offending attribute dropped or wrapped -/
theorem fetch_later_attribute_overflow (n : Nat) (hn : n < 2 ^ 32) (z : Nat) (mf : List Bool)
    (first : Bytes × AttributeValue) (others : List (Bytes × AttributeValue))
    (hall : ∀ x ∈ first :: others, RT.EncAttr x.2 x.1)
    (a : RT.NumAttr) (m : List Bool) (i : Bytes) (h : a.Big i) :
    parseResponse (b!"* " ++ ((List.replicate z 48 ++ decDigits n) ++ (RT.spell (b!" FETCH ") mf ++
      ([40] ++ ((first.1 ++ (others.map fun x => [32] ++ x.1).flatten) ++ 32 :: (RT.spell a.kw m ++ i))))))
      = .err :=
  RT.parseResponse_fetch_err_later hn (.mk z) mf first others hall _ (RT.msgAtt_err_big m h)

example : parseResponse (b!"* 1 FETCH (FLAGS () UID 4294967296)\r\n") = .err := by rfl

end C13
