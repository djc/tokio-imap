/-
  C14 - Typed builders emit exactly the command requested, and only grammatical ones.

  `CmdGrammar` is the `fetch` production of RFC 3501 section 9 with `sequence-set`, the
  `fetch-modifiers` of RFC 4466 and `CHANGEDSINCE` of RFC 4551 (plus the two Gmail items), written as
  derivation relations from the RFCs (the attribute and macro names are spelled out again there; they
  coincide with the builder's tables: `attrName_rfc`, `macroName_rfc`).  The theorem: every call sequence
  the typestates admit (`Builders.run` = the transitions of the `impl` blocks) in which no message number
  and no mod-sequence value is 0 - the builder accepts 0, the grammar's `nz-number` and `mod-sequence-value` do
  not - yields a line derivable from the
  grammar whose message set, items or macro and modifier are precisely the calls made, in order.
-/
import ImapVerif.Builders

open Bytes Builders

namespace CmdGrammar

/-- fetch-att keywords (RFC 3501 section 9, RFC 4551 section 4, Gmail IMAP extensions) -/
def rfcAtt : Attribute → Bytes
  | .body => b!"BODY"
  | .envelope => b!"ENVELOPE"
  | .flags => b!"FLAGS"
  | .internalDate => b!"INTERNALDATE"
  | .modSeq => b!"MODSEQ"
  | .rfc822 => b!"RFC822"
  | .rfc822Size => b!"RFC822.SIZE"
  | .rfc822Text => b!"RFC822.TEXT"
  | .uid => b!"UID"
  | .gmailLabels => b!"X-GM-LABELS"
  | .gmailMsgId => b!"X-GM-MSGID"

def rfcMacro : AttrMacro → Bytes
  | .all => b!"ALL"
  | .fast => b!"FAST"
  | .full => b!"FULL"

/-- seq-number / seq-range (nz-number, `*` as the upper end) -/
inductive SeqItem : Call → Bytes → Prop
  | num (n : Nat) : 0 < n → SeqItem (.num n) (decDigits n)
  | range (a b : Nat) : 0 < a → 0 < b → SeqItem (.range a b) (decDigits a ++ b!":" ++ decDigits b)
  | rangeFrom (a : Nat) : 0 < a → SeqItem (.rangeFrom a) (decDigits a ++ b!":*")

/-- sequence-set = (seq-number / seq-range) *("," sequence-set) -/
inductive SeqSet : List Call → Bytes → Prop
  | one (c : Call) (e : Bytes) : SeqItem c e → SeqSet [c] e
  | snoc (cs : List Call) (es : Bytes) (c : Call) (e : Bytes) :
      SeqSet cs es → SeqItem c e → SeqSet (cs ++ [c]) (es ++ b!"," ++ e)

/-- fetch-att *(SP fetch-att) -/
inductive AttList : List Attribute → Bytes → Prop
  | one (a : Attribute) : AttList [a] (rfcAtt a)
  | snoc (as : List Attribute) (e : Bytes) (a : Attribute) :
      AttList as e → AttList (as ++ [a]) (e ++ b!" " ++ rfcAtt a)

inductive Items
  | macro (m : AttrMacro)
  | atts (as : List Attribute)

/-- "ALL" / "FULL" / "FAST" / "(" fetch-att *(SP fetch-att) ")" -/
inductive ItemsEnc : Items → Bytes → Prop
  | macro (m : AttrMacro) : ItemsEnc (.macro m) (rfcMacro m)
  | atts (as : List Attribute) (e : Bytes) : AttList as e → ItemsEnc (.atts as) (b!"(" ++ e ++ b!")")

/-- [SP "(" "CHANGEDSINCE" SP mod-sequence-value ")"] : at most one modifier list -/
inductive ModEnc : Option Nat → Bytes → Prop
  | none : ModEnc none []
  | changedSince (n : Nat) : 0 < n → ModEnc (some n) (b!" (CHANGEDSINCE " ++ decDigits n ++ b!")")

structure FetchAst where
  uid : Bool
  set : List Call
  items : Items
  changedSince : Option Nat

/-- fetch = ["UID" SP] "FETCH" SP sequence-set SP items [fetch-modifiers] -/
inductive Fetch : FetchAst → Bytes → Prop
  | mk (uid : Bool) (set : List Call) (items : Items) (cs : Option Nat) (e1 e2 e3 : Bytes) :
      SeqSet set e1 → ItemsEnc items e2 → ModEnc cs e3 →
      Fetch ⟨uid, set, items, cs⟩ ((if uid then b!"UID FETCH " else b!"FETCH ") ++ e1 ++ b!" " ++ e2 ++ e3)

/-- the calls an AST stands for, in order -/
def callsOf (a : FetchAst) : List Call :=
  a.set ++
  (match a.items with
   | .macro m => [Call.attrMacro m]
   | .atts as => as.map Call.attr) ++
  (match a.changedSince with
   | none => []
   | some n => [Call.changedSince n])

end CmdGrammar

namespace C14

open CmdGrammar

/-- the arguments are non-zero message numbers / mod-sequence values -/
def NonZero : Call → Prop
  | .num n => 0 < n
  | .range a b => 0 < a ∧ 0 < b
  | .rangeFrom a => 0 < a
  | .changedSince n => 0 < n
  | _ => True

theorem attrName_rfc (a : Attribute) : attrName a = rfcAtt a := by cases a <;> rfl
theorem macroName_rfc (m : AttrMacro) : macroName m = rfcMacro m := by cases m <;> rfl

/-- what the builder holds after a history of calls -/
inductive Reach (pfx : Bytes) : FState → Bytes → List Call → Prop
  | empty : Reach pfx .empty pfx []
  | messages (set : List Call) (e : Bytes) : SeqSet set e → Reach pfx .messages (pfx ++ e) set
  | attributes (set : List Call) (e : Bytes) (as : List Attribute) (e2 : Bytes) :
      SeqSet set e → AttList as e2 →
      Reach pfx .attributes (pfx ++ e ++ b!" (" ++ e2) (set ++ as.map Call.attr)
  | modifiers (set : List Call) (e : Bytes) (m : AttrMacro) :
      SeqSet set e → Reach pfx .modifiers (pfx ++ e ++ b!" " ++ rfcMacro m) (set ++ [Call.attrMacro m])
  /-- (`a.uid` plays no part: `callsOf` does not read it) -/
  | complete (a : FetchAst) (e1 e2 e3 : Bytes) :
      SeqSet a.set e1 → ItemsEnc a.items e2 → ModEnc a.changedSince e3 →
      Reach pfx .complete (pfx ++ e1 ++ b!" " ++ e2 ++ e3) (callsOf a)

theorem step_reach (pfx : Bytes) (st : FState) (args : Bytes) (hist : List Call) (c : Call)
    (st' : FState) (args' : Bytes) (hr : Reach pfx st args hist) (hs : step st args c = some (st', args'))
    (hz : NonZero c) : Reach pfx st' args' (hist ++ [c]) := by
  -- in each state `cases hs` refutes the calls the state does not offer and computes the others
  cases hr with
  | empty =>
    cases c <;> cases hs
    · exact .messages _ _ (.one _ _ (.num _ hz))
    · exact .messages _ _ (.one _ _ (.range _ _ hz.1 hz.2))
    · exact .messages _ _ (.one _ _ (.rangeFrom _ hz))
  | messages _ e hset =>
    have item {c s} (h : SeqItem c s) : Reach pfx .messages (pfx ++ e ++ b!"," ++ s) (hist ++ [c]) := by
      simpa using Reach.messages (pfx := pfx) _ _ (.snoc _ _ _ _ hset h)
    cases c <;> cases hs
    · exact item (.num _ hz)
    · exact item (.range _ _ hz.1 hz.2)
    · exact item (.rangeFrom _ hz)
    · simpa [attrName_rfc] using Reach.attributes (pfx := pfx) _ _ _ _ hset (.one _)
    · simpa [macroName_rfc] using Reach.modifiers (pfx := pfx) _ _ _ hset
  | attributes set e as e2 hset hatt =>
    cases c <;> cases hs
    · simpa [attrName_rfc] using Reach.attributes (pfx := pfx) _ _ _ _ hset (.snoc _ _ _ hatt)
    · simpa [callsOf, changedSinceBytes] using
        Reach.complete (pfx := pfx) ⟨false, set, .atts as, some _⟩ _ _ _ hset (.atts _ _ hatt) (.changedSince _ hz)
  | modifiers set e m hset =>
    cases c <;> cases hs
    simpa [callsOf, changedSinceBytes] using
      Reach.complete (pfx := pfx) ⟨false, set, .macro m, some _⟩ _ _ _ hset (.macro m) (.changedSince _ hz)
  | complete => cases c <;> cases hs

theorem run_reach (pfx : Bytes) (calls : List Call) (st : FState) (args : Bytes) (hist : List Call)
    (st' : FState) (args' : Bytes) (hr : Reach pfx st args hist) (h : run st args calls = some (st', args'))
    (hz : ∀ c ∈ calls, NonZero c) : Reach pfx st' args' (hist ++ calls) := by
  induction calls generalizing st args hist with
  | nil =>
    cases h
    rwa [List.append_nil]
  | cons c cs ih =>
    rw [run] at h
    split at h
    next st1 args1 hs =>
      rw [List.append_cons]
      exact ih _ _ _ (step_reach pfx st args hist c st1 args1 hr hs (hz c (List.mem_cons_self ..))) h
        fun x hx => hz x (List.mem_cons_of_mem _ hx)
    · cases h

/-- **C14**: every call sequence the typestates admit, with non-zero numbers, converts into a line
    derivable from the `fetch` grammar whose set, items / macro and modifier are precisely the calls
    made, in order -/
theorem fetch_grammatical (uid : Bool) (calls : List Call) (line : Bytes)
    (h : fetchCommand uid calls = some line) (hz : ∀ c ∈ calls, NonZero c) :
    ∃ a : FetchAst, a.uid = uid ∧ callsOf a = calls ∧ Fetch a line := by
  unfold fetchCommand at h
  split at h <;> try cases h
  rename_i st args hrun
  have hr := run_reach _ calls .empty _ [] st args .empty hrun hz
  rw [List.nil_append] at hr
  -- only Attributes, Modifiers and Complete convert; `cases h` computes the line
  cases hr with
  | empty | messages => cases h
  | attributes set e as e2 hset hatt =>
    cases h
    exact ⟨⟨uid, set, .atts as, none⟩, rfl, List.append_nil _,
      by simpa using Fetch.mk uid _ _ _ _ _ _ hset (.atts _ _ hatt) .none⟩
  | modifiers set e m hset =>
    cases h
    exact ⟨⟨uid, set, .macro m, none⟩, rfl, List.append_nil _,
      by simpa using Fetch.mk uid _ _ _ _ _ _ hset (.macro m) .none⟩
  | complete a e1 e2 e3 hset hit hmod =>
    cases h
    exact ⟨⟨uid, a.set, a.items, a.changedSince⟩, rfl, rfl, Fetch.mk uid _ _ _ _ _ _ hset hit hmod⟩

/-- `changed_since` ends the chain: the typestate it leads to offers no call at all, whatever the state and the
    buffer the chain started from -/
theorem run_changed_since_last (st : FState) (args : Bytes) (pre : List Call) (a : Nat) (c : Call) (rest : List Call) :
    run st args (pre ++ Call.changedSince a :: c :: rest) = none := by
  induction pre generalizing st args with
  | nil => cases st <;> cases c <;> rfl
  | cons x xs ih =>
    simp only [List.cons_append, run]
    split
    · exact ih _ _
    · rfl

theorem changed_since_last (uid : Bool) (pre : List Call) (a : Nat) (c : Call) (rest : List Call) :
    fetchCommand uid (pre ++ Call.changedSince a :: c :: rest) = none := by
  unfold fetchCommand
  rw [run_changed_since_last]

/-- the typestates admit no second modifier list (defect F9, DESIGN 0.3) -/
theorem no_second_changed_since (uid : Bool) (pre : List Call) (a b : Nat) :
    fetchCommand uid (pre ++ [Call.changedSince a, Call.changedSince b]) = none :=
  changed_since_last uid pre a (.changedSince b) []

example : fetchCommand true [.num 1, .range 2 4294967295, .attr .envelope, .attr .uid, .changedSince 7]
    = some (b!"UID FETCH 1,2:4294967295 (ENVELOPE UID) (CHANGEDSINCE 7)") := by
  decide +kernel
example : fetchCommand false [.rangeFrom 3, .attrMacro .full] = some (b!"FETCH 3:* FULL") := by
  decide +kernel

end C14
