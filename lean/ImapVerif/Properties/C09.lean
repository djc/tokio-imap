/-
  C09 - A complete line always gets a verdict; the parser cannot stall the connection.
  `Line.frameEnd` is the independent lexical framer of IMAP (scan to CRLF; if the line ends in `{n}`
  skip n bytes and continue), written from the framing rule and not from the parser.
-/
import ImapVerif.Proofs.LineSafeGrammar

open Bytes Parser Grammar Line

namespace C09

/-- whenever the buffer holds a lexically complete frame, the parser answers a response or an error,
    never 'incomplete' - whether or not the line is well formed, whatever follows the frame -/
theorem complete_line_verdict (b : Bytes) (n : Nat) (h : frameEnd b = some n) :
    parseResponse b ≠ .inc :=
  LineOpen.frame_not_inc h

/-- Incomplete only ever means: the buffer ends inside a line or inside an announced literal -/
theorem incomplete_is_open (b : Bytes) (h : parseResponse b = .inc) : SegOpen b :=
  LineOpen.inc (p := parseResponse) b h

/-- an accepted response is a `Seg` (CR/LF-free bytes and whole literals) followed by one CRLF -/
theorem ok_ends_after_seg (b : Bytes) (v : Response) (r : Bytes) (h : parseResponse b = .ok v r) :
    ∃ c, b = c ++ [13, 10] ++ r ∧ Seg c :=
  LineEnd.ok (p := parseResponse) b v r h

/-- an accepted response without literals ends exactly at the first CRLF of the buffer -/
theorem no_literal_ends_at_first_crlf (b : Bytes) (v : Response) (r : Bytes)
    (h : parseResponse b = .ok v r) :
    ∃ c, b = c ++ [13, 10] ++ r ∧ Seg c ∧ (Free c → findCRLF b = some c.length) :=
  LineEnd.ends_at_first_crlf (p := parseResponse) b v r h

/-- no construct other than a literal can span CRLF: inside what the parser consumed, every CRLF
    belongs to a literal header or to literal content -/
theorem consumed_is_seg (b : Bytes) (v : Response) (r : Bytes) (h : parseResponse b = .ok v r) :
    ∃ c, b = c ++ [13, 10] ++ r ∧ Seg c := ok_ends_after_seg b v r h

/-! non-vacuity: the framer recognises complete frames (with and without literals); the line of defect F7
    (DESIGN 0.3) is a complete frame and a parse error -/
example : frameEnd (b!"* 5 EXISTS\r\n") = some 12 := by rfl
example : frameEnd (b!"* 1 FETCH (RFC822 {3}\r\nabc)\r\nA1 OK\r\n") = some 29 := by rfl
example : frameEnd (b!"* 1 FETCH (RFC822 {3}\r\nab") = none := by rfl
example : frameEnd (b!"* METADATA \"\" (/private/vendor \"x\")\r\n") = some 37 := by rfl
example : parseResponse (b!"* METADATA \"\" (/private/vendor \"x\")\r\n") = .err := by rfl

end C09
