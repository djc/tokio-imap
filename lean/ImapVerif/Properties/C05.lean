/-
  C05 - A command's response stream is delimited by its own tagged completion.
  Theorems about one poll of `ResponseStream::poll_next` (model `Client.Stream.pollNext`) in any state,
  under any transport script, and - at the end of the file - about the whole life of a command's
  stream from `call` to its completion (`command_stream_is_delimited`, composing the per-poll facts
  with `Framed.poll_ideal`, what one poll of the framed transport does to the framing).
  Not provable here (observed with the mock transport): that the waker registered is the transport's.
-/
import ImapVerif.Proofs.Session

open Bytes Client ClientInv Framed Session

namespace C05

/-- in `Done` the stream ends (`None`) and stays there, and the connection state is untouched: what the buffer
    holds is left for the next command (that it ends only in `Done`: `no_silent_end`; that the scripts are
    untouched too: `done_polls_touch_nothing`) -/
theorem done_is_final (s : RStream) (c : Conn) (rs : List REv) (ws : List WEv) (h : s.st = .done) :
    (Stream.pollNext s c rs ws).res = .done ∧ (Stream.pollNext s c rs ws).s = s ∧
    (Stream.pollNext s c rs ws).c = c := by
  simp [h]

/-- it never ends silently: before its completion a poll never yields `None` (end of file or a malformed
    response in `Receiving` is an error item: `receiving_forwards_transport`) -/
theorem no_silent_end (s : RStream) (c : Conn) (rs : List REv) (ws : List WEv) (h : s.st ≠ .done) :
    (Stream.pollNext s c rs ws).res ≠ .done := by
  obtain ⟨st0, w0, ws0, cl, new, -, -, -, ⟨-, -, e⟩ | ⟨-, -, r, hr, e⟩⟩ := pollNext_facts s c rs ws h
  · rw [e, recvStep_eq]
    exact fwd_ne_done _
  · rw [e]
    rcases hr with rfl | rfl <;> simp

/-- the stream enters `Done` exactly when it delivers a tagged completion carrying its own tag;
    that completion is delivered (it is the last item) -/
theorem ends_at_own_completion (s : RStream) (c : Conn) (rs : List REv) (ws : List WEv) (h : s.st ≠ .done) :
    (Stream.pollNext s c rs ws).s.st = .done ↔
      ∃ f, (Stream.pollNext s c rs ws).res = .item (.frame f) ∧ requestId f.value = some s.tag :=
  pollNext_done_iff s c rs ws h

/-- in `Receiving`, what the stream delivers is what the framed transport delivers at that moment
    (frame for frame), end of the transport stream becomes an error item, and the bytes the
    transport has not consumed stay where they are -/
theorem receiving_forwards_transport (s : RStream) (c : Conn) (rs : List REv) (ws : List WEv)
    (h : s.st = .receiving) :
    ∃ r rd' rs' n, pollNext c.rd rs = (r, rd', rs', n) ∧
      (Stream.pollNext s c rs ws).c.rd = rd' ∧ (Stream.pollNext s c rs ws).rs = rs' ∧
      (match r with
       | .pending => (Stream.pollNext s c rs ws).res = .pending
       | .item (.frame f) => (Stream.pollNext s c rs ws).res = .item (.frame f)
       | .item .error => (Stream.pollNext s c rs ws).res = .item .error
       | .done => (Stream.pollNext s c rs ws).res = .item .error) := by
  rw [pollNext_receiving s c rs ws h, recvStep_eq]
  refine ⟨(pollNext c.rd rs).1, _, _, _, rfl, rfl, rfl, ?_⟩
  generalize (pollNext c.rd rs).1 = r
  rcases r with _ | ⟨_ | _⟩ | _ <;> rfl

/-- Pending is only ever propagated from the transport: in `Receiving`, a Pending poll means the
    framed transport reported Pending, which it does only when a read was not ready or the script
    (the peer) has nothing more (the two Pending branches of `Client.pollNextGo`), and then nothing
    decodable is left in its buffer (C04 `pending_nothing_decodable`) -/
theorem pending_only_from_transport (s : RStream) (c : Conn) (rs : List REv) (ws : List WEv)
    (h : s.st = .receiving) (hp : (Stream.pollNext s c rs ws).res = .pending) :
    ∃ rd' n, pollNext c.rd rs = (.pending, rd', (Stream.pollNext s c rs ws).rs, n) := by
  rw [pollNext_receiving s c rs ws h, recvStep_eq] at hp ⊢
  exact ⟨_, _, Prod.ext ((fwd_pending _).1 hp) rfl⟩

/-- a Pending of the write half's flush (`pollFlush`, what `Sending` - and `Start` at the back-pressure boundary -
    waits on) means a transport write or flush was not ready, or the script is exhausted; no statement links
    this to a Pending of `Stream.pollNext` -/
theorem pending_while_sending (c : Wr) (ws : List WEv) (h : (pollFlush c ws).1 = .pending) :
    (pollFlush c ws).2.2.1 = [] ∨ ∃ pre, ws = pre ++ WEv.pending :: (pollFlush c ws).2.2.1 :=
  (pollFlush_spec c ws).1.pending h

/-- **a command's stream, from `call` to its completion**: poll the stream returned by `call` any
    number of times, under any read / write / flush schedule, on a connection whose read half is
    healthy.  As long as no poll reports an error:
    * the frames delivered, followed by the one-shot framing of what the connection has not yet
      delivered, are the one-shot framing of the connection's byte stream: every response once, in
      order (C04 `nothing_withheld`, that none is withheld past a Pending, is stated for the transport's own polls);
    * a frame carrying the command's own tag puts the stream in `Done`;
    * in `Done`, that completion is the last frame delivered and no earlier frame carried the tag:
      the stream stops exactly there, and everything after it is still in the connection (buffer
      or transport) for the next command. -/
theorem command_stream_is_delimited (k : Nat) (c : Conn) (args : Bytes) (rs : List REv) (ws : List WEv)
    (res : List PollR) (s' : RStream) (c' : Conn) (rs' : List REv) (ws' : List WEv)
    (he : c.rd.errored = false) (hs : Settled c.rd)
    (h : spolls k (c.call args).2 (c.call args).1 rs ws = (res, s', c', rs', ws'))
    (hne : ∀ r ∈ res, r ≠ .item .error) :
    framesOf res ++ ideal (c'.rd.rbuf ++ dataOf rs') = ideal (c.rd.rbuf ++ dataOf rs) ∧
    c'.rd.errored = false ∧ Settled c'.rd ∧
    (∀ f ∈ framesOf res, requestId f.value = some (Builders.tagOf (c.issued + 1)) → s'.st = .done) ∧
    (s'.st = .done → ∃ pre f, framesOf res = pre ++ [f] ∧ requestId f.value = some (Builders.tagOf (c.issued + 1)) ∧
      ∀ g ∈ pre, requestId g.value ≠ some (Builders.tagOf (c.issued + 1))) :=
  -- `call` leaves the read half alone and gives the stream the tag `tagOf (issued + 1)`, in `Start`
  have ⟨⟨h1, h2⟩, _, h5⟩ := session_invariant (by simp [Conn.call]) h
  have ⟨hs', he'⟩ := h2 (fun h => hne _ h rfl) he hs
  ⟨h1, he', hs', h5⟩

/-- the same from any live state of the stream (e.g. for the polls after an abandoned wait) -/
theorem live_stream_is_delimited (k : Nat) (s : RStream) (c : Conn) (rs : List REv) (ws : List WEv)
    (res : List PollR) (s' : RStream) (c' : Conn) (rs' : List REv) (ws' : List WEv)
    (hnd : s.st ≠ .done) (he : c.rd.errored = false) (hs : Settled c.rd)
    (h : spolls k s c rs ws = (res, s', c', rs', ws')) (hne : ∀ r ∈ res, r ≠ .item .error) :
    framesOf res ++ ideal (c'.rd.rbuf ++ dataOf rs') = ideal (c.rd.rbuf ++ dataOf rs) ∧
    (∀ f ∈ framesOf res, requestId f.value = some s.tag → s'.st = .done) ∧
    (s'.st = .done → ∃ pre f, framesOf res = pre ++ [f] ∧ requestId f.value = some s.tag ∧
      ∀ g ∈ pre, requestId g.value ≠ some s.tag) :=
  have ⟨h1, _, h5⟩ := session_invariant hnd h
  ⟨h1.1, h5⟩

/-- once `Done`, any number of further polls deliver nothing and leave connection and scripts alone -/
theorem done_polls_touch_nothing (k : Nat) (s : RStream) (c : Conn) (rs : List REv) (ws : List WEv)
    (h : s.st = .done) : ∃ l, spolls k s c rs ws = (l, s, c, rs, ws) ∧ ∀ r ∈ l, r = .done :=
  ⟨_, spolls_done k s c rs ws h, fun _ => List.eq_of_mem_replicate⟩

end C05
