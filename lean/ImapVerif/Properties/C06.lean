/-
  C06 - Each command goes on the wire exactly once, whole, and before any waiting.
  `Client.Stream.pollNext` models `ResponseStream::poll_next`, `Conn.call` models `call`; the transport
  is an arbitrary script of write / flush / read outcomes (partial writes, Pending anywhere).
  `Conn.started` is a ghost log of the lines handed to `start_send`; `Wr.wire` a ghost log of the bytes
  the transport accepted.
  Not provable here (observed over a loop-back connection / by the mock transport): wakers, TLS.
-/
import ImapVerif.Proofs.ClientInv

open Bytes Client ClientInv

namespace C06

/-- `wire ++ write buffer` is the concatenation of the command lines started so far, in order: bytes
    reach the wire only as prefixes of that concatenation - never duplicated, torn or interleaved -
    whatever the transport does and wherever a stream is abandoned (every state reached by polls and
    calls satisfies it) -/
theorem poll_preserves_wire_invariant (s : RStream) (c : Conn) (rs : List REv) (ws : List WEv)
    (h : WInv c) : WInv (Stream.pollNext s c rs ws).c := by
  -- the bytes and the log grow by the same lines
  obtain ⟨new, -, h1, h2⟩ := pollNext_sends s c rs ws
  unfold WInv at h ⊢
  rw [h1, h2, h, List.flatten_append]

theorem call_preserves_wire_invariant (c : Conn) (args : Bytes) (h : WInv c) : WInv (c.call args).1 := h

theorem fresh_wire_invariant : WInv ({} : Conn) := rfl

/-- the bytes on the wire are a prefix of the started command lines -/
theorem wire_is_prefix_of_commands (c : Conn) (h : WInv c) : c.wr.wire <+: c.started.flatten :=
  ⟨c.wr.wbuf, h⟩

/-- a command line is handed to the transport layer exactly when its stream leaves `Start`, it is
    the line `tag SP arguments CRLF` of that stream, and no other poll adds anything -/
theorem each_started_command_once (s : RStream) (c : Conn) (rs : List REv) (ws : List WEv) :
    (Stream.pollNext s c rs ws).c.started =
      c.started ++ (if s.st = .start ∧ (Stream.pollNext s c rs ws).s.st ≠ .start
                    then [Builders.encode s.tag s.args] else []) := by
  obtain ⟨new, rfl, h, -⟩ := pollNext_sends s c rs ws
  exact h

/-- a stream never re-enters `Start`: its command cannot be sent a second time -/
theorem never_reenters_start (s : RStream) (c : Conn) (rs : List REv) (ws : List WEv) (h : s.st ≠ .start) :
    (Stream.pollNext s c rs ws).s.st ≠ .start := by
  by_cases hnd : s.st = .done
  · simp [hnd]
  · obtain ⟨st0, w0, ws0, cl, new, -, -, -, ⟨rfl, -, e⟩ | ⟨-, hs, r, -, e⟩⟩ := pollNext_facts s c rs ws hnd
    · rw [e, recvStep_eq]
      simp only
      split <;> simp
    · rw [e]
      exact hs h

/-- once a stream waits for responses its write buffer is empty (and stays so) -/
theorem flushed_is_invariant (s : RStream) (c : Conn) (rs : List REv) (ws : List WEv) (h : Flushed s c) :
    Flushed (Stream.pollNext s c rs ws).s (Stream.pollNext s c rs ws).c := by
  by_cases hnd : s.st = .done
  · simpa [hnd] using h
  · obtain ⟨st0, w0, ws0, cl, new, -, -, -, ⟨-, hw, e⟩ | ⟨hs, -, r, -, e⟩⟩ := pollNext_facts s c rs ws hnd
    · rw [e, recvStep_eq]
      exact fun _ => hw h
    · -- still `Start` or `Sending`: nothing is claimed
      rw [e]
      exact fun h' => by rcases h' with rfl | rfl <;> simp at hs

/-- **flushed before waiting**: whenever a poll issues a transport read, the write buffer is empty,
    i.e. (with the wire invariant) every byte of every started command line has been accepted by
    the transport.  (That the transport's own flush has completed as well is not recorded in `Wr`;
    `pollFlushGo` answers Ready only on a `flushed` event.) -/
theorem flushed_before_read (s : RStream) (c : Conn) (rs : List REv) (ws : List WEv)
    (hf : Flushed s c) (hw : WInv c) (hr : ∃ ch ∈ (Stream.pollNext s c rs ws).calls, ch = 'r') :
    (Stream.pollNext s c rs ws).c.wr.wbuf = [] ∧
    (Stream.pollNext s c rs ws).c.wr.wire = (Stream.pollNext s c rs ws).c.started.flatten := by
  -- a read is made only in the `Receiving` arm, which a flushed stream enters with an empty write buffer
  have h1 := flushed_is_invariant s c rs ws hf (pollNext_reads s c rs ws hr)
  have h2 := poll_preserves_wire_invariant s c rs ws hw
  unfold WInv at h2
  rw [h1, List.append_nil] at h2
  exact ⟨h1, h2⟩

/-- a freshly created stream satisfies `Flushed` vacuously (it is in `Start`) -/
theorem call_flushed (c : Conn) (args : Bytes) : Flushed (c.call args).2 (c.call args).1 :=
  fun h => h.elim nofun nofun

/-! non-vacuity: one CHECK under a transport that accepts 3 bytes, then the rest, then flushes -/
example :
    let cs := ({} : Conn).call (b!"CHECK")
    (Stream.pollNext cs.2 cs.1 [] [.acc 3, .acc 100, .flushed]).c.wr.wire = b!"A0001 CHECK\r\n" := by rfl

end C06
