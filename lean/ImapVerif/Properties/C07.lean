/-
  C07 - A delivered frame owns its bytes; its parsed view never dangles or changes.

  Full statement: the value seen through a delivered frame is identical from delivery until the
  frame is dropped, whatever happens meanwhile (further reads, growth or reuse of the receive
  buffer, decoding of later frames, closing or dropping the client; frames held in any number,
  moved across threads, dropped in any order); and safe code cannot obtain from a frame a
  reference that outlives it.

  What is a theorem here: the *ownership argument* the codec relies on (the comments in codec.rs),
  made precise as a model of allocations, byte ranges and reference counts (Frames.lean):
    * `frame_intact_from_delivery` / `frames_intact`: along every admissible history of receive,
      deliver, drop-frame and drop-buffer operations - any length, any interleaving, any contents
      written - the cells of every live frame are exactly those at its delivery;
    * `released_only_when_unreferenced`: an allocation is released only when no frame refers to it;
    * `frame_in_bounds`: a live frame always lies inside a live allocation;
    * `dropped_never_returns`: handles are not reused.
  The view is a function of the frame's cells only (`view`, definitional), so an unchanged range is
  an unchanged parsed value: in the implementation this is the oracle "every borrowed string of
  parsed() lies inside the frame's own bytes", checked on every delivered frame.

  What is modelled, not verified: the behaviour of `bytes::BytesMut` (`reserve` moves data inside
  the allocation only as the unique owner; otherwise it allocates; `split_to().freeze()` shares the
  allocation and bumps the reference count).  These are the admissibility conditions of `Own.step`;
  the correspondence run observes the real buffer's decision at every operation and the model must
  admit it and place the window and every live frame where the real pointers are.

  What is observed, not proved (runtime half, labelled partial): actual memory - re-reading every
  retained frame byte for byte and deeply (under AddressSanitizer in the thorough tier), from
  another thread, after allocator churn, after the transport / client is dropped; and the API half
  ("safe code cannot keep a borrowed view past its frame") is a set of must-not-compile programs
  checked with rustc (harness/vh-probes/src/bin/must_fail_c07_*.rs).
-/
import ImapVerif.Proofs.FramesInv
import ImapVerif.Proofs.CodecRT

namespace C07

open Own

theorem reachable_inv {ops : List (Op × Nat)} {m : Mem} {s' : St} {m' : Mem}
    (hr : run {} m ops = some (s', m')) : Inv s' :=
  inv_run inv_init hr

/-- frames live at both ends of any admissible history (from any reachable state) are unchanged -/
theorem frames_intact (pre ops : List (Op × Nat)) (m0 : Mem) (s : St) (m : Mem) (s' : St) (m' : Mem)
    (hpre : run {} m0 pre = some (s, m)) (hr : run s m ops = some (s', m'))
    (f : Frame) (hf : f ∈ s.frames) (hf' : f ∈ s'.frames) :
    ∀ i, i < f.len → view m' f i = view m f i :=
  run_intact (reachable_inv hpre) hr hf hf'

/-- **from delivery until drop**: the frame cut by a `deliver` shows, at the end of any admissible
    continuation in which it is still live, exactly the cells it showed when it was delivered -/
theorem frame_intact_from_delivery (pre ops : List (Op × Nat)) (m0 : Mem) (s : St) (m : Mem)
    (n : Nat) (s1 : St) (e : Eff) (v : Nat) (s' : St) (m' : Mem)
    (hpre : run {} m0 pre = some (s, m))
    (hd : step s (.deliver n) = some (s1, e))
    (hr : run s1 (applyEff m v e) ops = some (s', m'))
    (f : Frame) (hnew : f ∈ s1.frames) (hfresh : f.h = s.nextH) (hf' : f ∈ s'.frames) :
    ∀ i, i < f.len → view m' f i = view m f i := by
  -- (`hfresh` says which frame is meant; the argument needs only that it is live after the delivery)
  have hinv1 : Inv s1 := inv_step (reachable_inv hpre) hd
  -- delivering writes nothing and releases nothing: the memory `run` starts from is `m`
  cases step_sound hd
  exact run_intact hinv1 hr hnew hf'

/-- an allocation is released only when no frame refers to it -/
theorem released_only_when_unreferenced (pre : List (Op × Nat)) (m0 : Mem) (s : St) (m : Mem)
    (op : Op) (s' : St) (e : Eff) (_hpre : run {} m0 pre = some (s, m)) (hs : step s op = some (s', e))
    (a : Nat) (ha : a ∈ e.freed) : ∀ f ∈ s'.frames, f.a ≠ a :=
  step_freed hs a ha

/-- a live frame lies inside a live allocation (the view never reads out of bounds) -/
theorem frame_in_bounds (ops : List (Op × Nat)) (m : Mem) (s' : St) (m' : Mem)
    (hr : run {} m ops = some (s', m')) (f : Frame) (hf : f ∈ s'.frames) :
    ∃ size, look s'.sizes f.a = some size ∧ f.off + f.len ≤ size :=
  (reachable_inv hr).frameAlloc f hf

/-- frames that share the receive buffer's allocation end before the buffer's window begins, so
    nothing the connection receives later can land in them -/
theorem frames_before_window (ops : List (Op × Nat)) (m : Mem) (s' : St) (m' : Mem)
    (hr : run {} m ops = some (s', m')) (w : Win) (hw : s'.win = some w) (f : Frame) (hf : f ∈ s'.frames)
    (ha : f.a = w.a) : f.off + f.len ≤ w.off :=
  (reachable_inv hr).before w hw f hf ha

/-- a dropped frame never reappears -/
theorem dropped_never_returns (ops : List (Op × Nat)) (s : St) (m : Mem) (s' : St) (m' : Mem) (f : Frame)
    (hh : f.h < s.nextH) (hf : f ∉ s.frames) (hr : run s m ops = some (s', m')) : f ∉ s'.frames :=
  (run_induction (P := fun s _ => f.h < s.nextH ∧ f ∉ s.frames)
    (fun ⟨hh, hf⟩ hs _ =>
      have ⟨hh1, hold⟩ := step_old_frame hs hh
      ⟨hh1, fun hf1 => hf (hold hf1)⟩)
    ⟨hh, hf⟩ hr).2

/-- only a unique owner may move data inside the allocation: with a live frame in the buffer's
    allocation the model refuses the in-allocation shift (the real buffer must then allocate) -/
theorem shift_refused_while_shared (s : St) (n newOff cap : Nat) (w : Win) (hw : s.win = some w)
    (f : Frame) (hf : f ∈ s.frames) (ha : f.a = w.a) : step s (.recvShift n newOff cap) = none := by
  refine Option.eq_none_iff_forall_ne_some.2 fun ⟨s', e⟩ h => ?_
  cases step_sound h with
  | recvShift w' _ _ _ _ hw' _ hsh =>
    cases hw.symm.trans hw'
    exact (shared_false_iff s w.a).1 hsh f hf ha

/-- of the frames of conformant responses (`framesOfEncs`, which `C08.codec_frames_are_the_responses` shows
    to be the frames the codec cuts), each holds exactly the bytes of one response, and the parsed value
    is the parse of those bytes alone: nothing outside
    the frame's range takes part in what `parsed()` shows.  (Together with `frames_intact`: unchanged
    cells, hence an unchanged value.) -/
theorem view_is_parse_of_own_bytes (items : List (Response × Bytes)) (hall : ∀ x ∈ items, RT.EncResponse x.1 x.2)
    (f : Client.Frame) (hf : f ∈ CodecRT.framesOfEncs items) :
    Grammar.parseResponse f.raw = .ok f.value [] := by
  simp only [CodecRT.framesOfEncs, List.mem_map] at hf
  obtain ⟨x, hx, rfl⟩ := hf
  simpa using RT.parseResponse_enc x.1 x.2 (hall x hx) []

/-! ### the hypotheses are satisfiable: a history with two retained frames, a reallocation while
    both are live, one of them dropped, and the buffer dropped while the other is still held -/

def demo : List (Op × Nat) :=
  [(.recvNew 10 64, 1), (.deliver 4, 0), (.recvInPlace 5 60, 2), (.deliver 3, 0), (.recvNew 100 128, 3),
   (.dropFrame 0, 0), (.dropBuf, 0)]

example : ∃ s m, run {} (fun _ _ => 0) demo = some (s, m) ∧ s.frames = [⟨1, 1, 4, 3⟩] ∧ s.win = none := by
  refine ⟨_, _, rfl, rfl, rfl⟩

end C07
