/-
  C01 - The response parser is total: no panic, abort, stack exhaustion or loop on any input.
  The model produces `Res.panic` at every place where the Rust source can
  panic (`unwrap`, slice / index expressions, the `panic!` arm), and every loop of the code is a
  fuel-bounded recursion whose fuel is shown never to run out.
  Not provable here (observed by the harness instead): bytes of native stack per recursion level,
  allocation failure.
-/
import ImapVerif.Proofs.StableGrammar

open Bytes Parser Grammar

namespace C01

/-- no input makes the parser panic -/
theorem parse_no_panic (b : Bytes) : parseResponse b ≠ .panic :=
  Stable.nopanic (p := parseResponse) b

/-- every input gets one of the verdicts accept, Incomplete, `Error`, `Failure`; an accept returns a suffix of
    the input as remainder -/
theorem parse_verdict (b : Bytes) :
    (∃ v r c, parseResponse b = .ok v r ∧ b = c ++ r) ∨ parseResponse b = .inc ∨
      parseResponse b = .err ∨ parseResponse b = .fail :=
  Stable.verdict b

/-- termination of `many0` / `many1` loops: any fuel above the input length gives the same result, so
    the `length + 1` the model supplies is never exhausted (each iteration consumes input) -/
theorem many0_fuel_irrelevant (p : Parser α) [Stable p] (n m : Nat) (i : Bytes) (acc : List α)
    (hn : i.length < n) (hm : i.length < m) : many0Go p n i acc = many0Go p m i acc :=
  Stable.many0Go_fuel p n m i acc hn hm

/-- termination of `separated_list0/1` loops -/
theorem sepList_fuel_irrelevant (sep : Parser Unit) (p : Parser α) [Stable sep] [Stable p]
    (n m : Nat) (i : Bytes) (acc : List α) (hn : i.length < n) (hm : i.length < m) :
    sepGo sep p n i acc = sepGo sep p m i acc :=
  Stable.sepGo_fuel sep p n m i acc hn hm

/-- the METADATA entry-name stage machine neither indexes out of range nor loops -/
theorem entryName_total (i : Bytes) : checkEntryName i = .ok ∨ checkEntryName i = .err :=
  EntryName.checkEntryName_total i

/-- recursion depth: `body` starts `body_nested` on the budget `MAX_NESTING + 1 = 33`, and at budget 0
    `body_nested` and `body_extension` fail without recursing (that the budget decreases is the structural
    recursion of the two definitions) -/
theorem body_budget : body = bodyNested 33 ∧ bodyNested 0 = (failP : Parser BodyStructure) ∧
    bodyExtension 0 = (failP : Parser BodyExtension) := ⟨rfl, rfl, rfl⟩

set_option maxRecDepth 100000 in
/-- exceeding the budget is a parse failure, not a crash: 34 opening parentheses after
    BODYSTRUCTURE (one per level) -/
example : parseResponse (b!"* 1 FETCH (BODYSTRUCTURE " ++ List.replicate 34 40) = .fail := by rfl
set_option maxRecDepth 100000 in
example : parseResponse (b!"* 1 FETCH (BODYSTRUCTURE " ++ List.replicate 33 40) = .inc := by rfl

/-! the inputs of defects F1 and F2 (DESIGN 0.3: INTERNALDATE NIL, a non-UTF-8 METADATA literal) are parse errors -/
example : parseResponse (b!"* 1 FETCH (INTERNALDATE NIL)\r\n") = .err := by rfl
example : parseResponse (b!"* METADATA \"a\" (/shared/comment {2}\r\n" ++ [255, 254] ++ b!")\r\n") = .err := by rfl

end C01
