/-
  C17 - Body-structure search returns the IMAP part specifier of the matching part.
  `BodyStruct.table` models `BodyStructParser::new`, `searchCandidates` the set of paths `search` may
  return (any iteration order of the `HashMap`); `nodeAt` is the specification: the node addressed by
  a part specifier (1-based child indices from the root multipart down).
-/
import ImapVerif.BodyStruct

open BodyStruct

namespace C17

/-! ### the pre-order list is exactly the graph of `nodeAt` -/

theorem childAt_zero (cs : List Tree) (q : List Nat) : childAt cs 0 q = none := by
  cases cs <;> simp [childAt]

mutual
  theorem parts_spec : ∀ (t : Tree) (pre p : List Nat) (n : Nat),
      (p, n) ∈ parts pre t ↔ ∃ q, p = pre ++ q ∧ nodeAt t q = some n
    | .leaf id, pre, p, n => by
      simp only [parts, List.mem_singleton, Prod.mk.injEq]
      constructor
      · rintro ⟨rfl, rfl⟩
        exact ⟨[], (List.append_nil _).symm, rfl⟩
      · rintro ⟨_ | _, rfl, hq⟩ <;> cases hq
        exact ⟨List.append_nil _, rfl⟩
    | .multi id cs, pre, p, n => by
      simp only [parts, List.mem_cons, Prod.mk.injEq, partsChildren_offset cs pre 1 p n]
      constructor
      · rintro (⟨rfl, rfl⟩ | ⟨i, q, rfl, hc⟩)
        · exact ⟨[], (List.append_nil _).symm, rfl⟩
        · exact ⟨(i + 1) :: q, rfl, hc⟩
      · rintro ⟨_ | ⟨_ | i, q⟩, rfl, hq⟩
        · cases hq
          exact .inl ⟨List.append_nil _, rfl⟩
        · cases (childAt_zero cs q).symm.trans hq
        · exact .inr ⟨i, q, rfl, hq⟩
  /-- the child numbered `i + k` by the walk is the `i + 1`-th of the remaining children: counting
      from the offset `i` keeps truncated subtraction out of the induction -/
  theorem partsChildren_offset : ∀ (cs : List Tree) (pre : List Nat) (k : Nat) (p : List Nat) (n : Nat),
      (p, n) ∈ partsChildren pre k cs ↔ ∃ i q, p = pre ++ (i + k) :: q ∧ childAt cs (i + 1) q = some n
    | [], pre, k, p, n => by simp [partsChildren, childAt]
    | c :: cs, pre, k, p, n => by
      simp only [partsChildren, List.mem_append, parts_spec c (pre ++ [k]) p n,
        partsChildren_offset cs pre (k + 1) p n]
      -- by computation `childAt (c :: cs) 1 q` is `nodeAt c q` and `childAt (c :: cs) (i + 2) q` is
      -- `childAt cs (i + 1) q`
      constructor
      · rintro (⟨q, rfl, hq⟩ | ⟨i, q, rfl, hc⟩)
        · exact ⟨0, q, by simp, hq⟩
        · exact ⟨i + 1, q, by rw [Nat.add_right_comm, Nat.add_assoc], hc⟩
      · rintro ⟨_ | i, q, rfl, hc⟩
        · exact .inl ⟨q, by simp, hc⟩
        · exact .inr ⟨i, q, by rw [Nat.add_right_comm, Nat.add_assoc], hc⟩
end

/-- the same with the child number `j = i + k` itself instead of its offset -/
theorem partsChildren_spec : ∀ (cs : List Tree) (pre : List Nat) (k : Nat) (p : List Nat) (n : Nat),
      1 ≤ k → ((p, n) ∈ partsChildren pre k cs ↔
        ∃ j q, p = pre ++ (j :: q) ∧ k ≤ j ∧ childAt cs (j - k + 1) q = some n) := by
  intro cs pre k p n _
  rw [partsChildren_offset]
  constructor
  · rintro ⟨i, q, rfl, h⟩
    exact ⟨i + k, q, rfl, Nat.le_add_left .., by rwa [Nat.add_sub_cancel]⟩
  · rintro ⟨j, q, rfl, hk, h⟩
    exact ⟨j - k, q, by rw [Nat.sub_add_cancel hk], h⟩

theorem parts_prefix (t : Tree) (pre : List Nat) (e : List Nat × Nat) (he : e ∈ parts pre t) : pre <+: e.1 := by
  obtain ⟨q, hq, -⟩ := (parts_spec t pre e.1 e.2).1 he
  exact hq ▸ List.prefix_append ..

/-! ### the walk inserts exactly the pre-order list of (specifier, node) pairs -/

theorem insert_fresh (t : Table) (k : List Nat) (v : Nat) (h : ∀ e ∈ t, e.1 ≠ k) :
    t.insert k v = t ++ [(k, v)] := by
  have : t.any (fun e => e.1 == k) = false := List.any_eq_false.2 fun e he => by simpa using h e he
  simp [Table.insert, this]

/-- two different children of one node have no descendant in common -/
theorem prefix_snoc_ne (pre : List Nat) (j k : Nat) (hjk : j ≠ k) (p : List Nat)
    (h1 : (pre ++ [k]) <+: p) : ¬ (pre ++ [j]) <+: p := by
  intro h2
  -- two prefixes of `p` of the same length are equal
  have := (List.prefix_of_prefix_length_le h1 h2 (by simp)).eq_of_length (by simp)
  exact hjk (by simpa using this.symm)

mutual
  theorem walk_eq : ∀ (t : Tree) (pre : List Nat) (tbl : Table),
      (∀ e ∈ tbl, ¬ pre <+: e.1) → walk pre t tbl = tbl ++ parts pre t
    | .leaf id, pre, tbl => by
      intro h
      simp only [walk, parts]
      exact insert_fresh tbl pre id (fun e he heq => h e he (heq ▸ List.prefix_refl _))
    | .multi id cs, pre, tbl => by
      intro h
      simp only [walk, parts]
      rw [insert_fresh tbl pre id (fun e he heq => h e he (heq ▸ List.prefix_refl _))]
      rw [walkChildren_eq cs pre 1 (tbl ++ [(pre, id)])]
      · simp
      · intro e he j _ hp
        simp only [List.mem_append, List.mem_singleton] at he
        rcases he with he | rfl
        · exact h e he (List.IsPrefix.trans (List.prefix_append _ _) hp)
        · exact absurd hp.length_le (by simp)
  theorem walkChildren_eq : ∀ (cs : List Tree) (pre : List Nat) (k : Nat) (tbl : Table),
      (∀ e ∈ tbl, ∀ j, k ≤ j → ¬ (pre ++ [j]) <+: e.1) →
      walkChildren pre k cs tbl = tbl ++ partsChildren pre k cs
    | [], pre, k, tbl => by
      intro _
      simp [walkChildren, partsChildren]
    | c :: cs, pre, k, tbl => by
      intro h
      simp only [walkChildren, partsChildren]
      rw [walk_eq c (pre ++ [k]) tbl (fun e he => h e he k (Nat.le_refl _))]
      rw [walkChildren_eq cs pre (k + 1) (tbl ++ parts (pre ++ [k]) c)]
      · simp
      · intro e he j hj
        simp only [List.mem_append] at he
        rcases he with he | he
        · exact h e he j (by omega)
        · exact prefix_snoc_ne pre j k (by omega) e.1 (parts_prefix c (pre ++ [k]) e he)
end

theorem table_eq_parts (root : Tree) : table root = parts [] root := by
  unfold table
  rw [walk_eq root [] [] nofun]
  simp

/-- **table correctness**: a pair is in the table iff the path is the part specifier of that node -/
theorem table_complete_and_correct (root : Tree) (p : List Nat) (n : Nat) :
    (p, n) ∈ table root ↔ nodeAt root p = some n := by
  simp [table_eq_parts, parts_spec]

theorem mem_searchCandidates (root : Tree) (pred : Nat → Bool) (p : List Nat) :
    p ∈ searchCandidates root pred ↔ ∃ n, nodeAt root p = some n ∧ pred n = true := by
  simp [searchCandidates, table_complete_and_correct]

/-- every path `search` can return leads to a part that satisfies the predicate -/
theorem search_sound (root : Tree) (pred : Nat → Bool) (p : List Nat)
    (h : p ∈ searchCandidates root pred) : ∃ n, nodeAt root p = some n ∧ pred n = true :=
  (mem_searchCandidates root pred p).1 h

/-- `search` returns a path if and only if some part satisfies the predicate -/
theorem search_some_iff (root : Tree) (pred : Nat → Bool) :
    searchCandidates root pred ≠ [] ↔ ∃ p n, nodeAt root p = some n ∧ pred n = true := by
  simp only [← mem_searchCandidates]
  exact ⟨List.exists_mem_of_ne_nil _, fun ⟨_, h⟩ => List.ne_nil_of_mem h⟩

/-- a part specifier addresses at most one node.  (Not conversely: the model does not ask identifiers
    to be distinct, and two parts with the same identifier have different specifiers.) -/
theorem specifier_unique (root : Tree) (p : List Nat) (n m : Nat)
    (h1 : (p, n) ∈ table root) (h2 : (p, m) ∈ table root) : n = m := by
  rw [table_complete_and_correct] at h1 h2
  exact Option.some.inj (h1.symm.trans h2)

/-! non-vacuity: a multipart with four children, numbered 1, 2, 3, 4 (not 1, 2, 4, 7) -/
example : table (.multi 0 [.leaf 1, .leaf 2, .leaf 3, .leaf 4])
    = [([], 0), ([1], 1), ([2], 2), ([3], 3), ([4], 4)] := by decide +kernel
example : nodeAt (.multi 0 [.leaf 1, .multi 2 [.leaf 3, .leaf 4], .leaf 5]) [2, 2] = some 4 := by decide +kernel

end C17
