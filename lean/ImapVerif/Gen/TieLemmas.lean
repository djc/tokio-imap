/-
  Lemmas and the tactic used by the generated tie theorems (`Gen/Tie.lean`).
-/
import ImapVerif.Gen.Comb
import ImapVerif.Gen.AltSwap
import ImapVerif.Gen.NormAttr
import ImapVerif.Proofs.Byte

open Bytes Parser

namespace Gen

/-- when the value determines the bytes consumed, `recognize` returns them -/
theorem recognize_eq (p : Parser α) (w : α → Bytes) (h : ∀ i v r, p i = .ok v r → i = w v ++ r) :
    recognize p = (p >>= fun v => pure (w v)) := by
  funext i
  simp only [recognize, bind_def, pure_def, Parser.bindP, Parser.pureP]
  cases hp : p i with
  | ok v r => simp [h i v r hp]
  | _ => rfl

/-- `recognize(pair(tag([c]), take_while(f)))` returns the tag byte followed by the run -/
theorem recognize_tag1_takeWhile' (c : UInt8) (f : UInt8 → Bool) :
    recognize ((Parser.tag [c]) >>= fun a => Parser.takeWhile f >>= fun b => pure (a, b)) =
      (do Parser.tag [c]; let s ← Parser.takeWhile f; pure (c :: s)) := by
  rw [recognize_eq _ (fun ab => c :: ab.2)]
  · simp only [bind_assoc', pure_bind']
  · intro i v r h
    obtain ⟨a, r1, h1, h⟩ := Parser.bind_eq_ok h
    obtain ⟨s, r2, h2, h⟩ := Parser.bind_eq_ok h
    cases h
    rw [Parser.tag_eq_ok h1, (Parser.takeWhile_eq_ok h2).1]
    rfl

theorem ite_not_bool (c : Bool) (a b : α) : (if (!c) = true then a else b) = if c = true then b else a := by
  cases c <;> rfl

/-- under `opt`, a parser may be replaced by one that differs only in the value it returns -/
theorem opt_bind_congr {p : Parser α} {p' : Parser α'} (g : α → α') {k : Option α → Parser β}
    {k' : Option α' → Parser β} (hp : (p >>= fun a => pure (g a)) = p') (hk : ∀ o, k o = k' (o.map g)) :
    (Parser.opt p >>= k) = (Parser.opt p' >>= k') := by
  subst hp; funext i
  simp only [Parser.opt, bind_def, pure_def, Parser.bindP, Parser.pureP, hk]
  cases p i <;> rfl

/- The normal form in which a generated definition and its hand-written counterpart meet: the sequence
   combinators and `map` as binds, binds nested to the right, `pure` steps and unit-valued wrappers removed. -/
attribute [gen_nf] map_eq preceded terminated delimited pair separatedPair tag_unit tag_bytes void_unit
  bind_assoc' pure_bind' bind_pure' bind_pure_unit failure error ite_not_bool recognize_tag1_takeWhile'
  rangeToUid_ite id_eq

end Gen

/-- `gen_tie A, B with [ties of the callees]`: unfold the generated definition `A` and the model's `B` and
    bring both to the normal form `gen_nf`; a helper of the model that has no Rust counterpart is left to
    `rfl`.  The later alternatives are for a source that no longer has the model's shape: a byte class is compared
    on all 256 bytes, a parser verdict by verdict; then the first attempt with `A` alone unfolded (for a `B` that
    does not unfold), and plain `rfl`. -/
syntax "gen_tie " ident ", " ident " with " "[" Lean.Parser.Tactic.simpLemma,* "]" : tactic
macro_rules
  | `(tactic| gen_tie $a, $b with [$ts,*]) => `(tactic|
      first
      | (unfold $a $b
         simp only [gen_nf, $ts,*] <;> rfl)
      | exact funext (by decide +kernel : ∀ c : UInt8, $a c = $b c)
      | (unfold $a $b
         funext i
         simp only [gen_nf, $ts,*, Gen.bind_def, Gen.pure_def, Parser.bindP, Parser.pureP, Parser.opt,
           Parser.map, Parser.alt]
         repeat' split
         all_goals simp_all)
      | (unfold $a
         simp only [gen_nf, $ts,*] <;> rfl)
      | rfl)
