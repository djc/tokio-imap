/-
  Support library of the *generated* model (`ImapVerif/Gen/Parser.lean`, written by the translator
  `harness/vh-translate` from /repo's parser sources on every run).

  The translator maps every nom call of the Rust source to the combinator of the same name, in `Nom.lean` or
  below; the definitions here are the nom 7.1.3 sequence combinators written in terms of the model's monad, plus the
  lemmas that bring a generated definition and a hand-written one to a common normal form (right-nested
  binds), so that the tie theorems `Gen.<module>.<fn> = Grammar.<fn>` are closed by `simp`.
-/
import ImapVerif.Proofs.NomEq
import ImapVerif.Types

open Bytes Parser

namespace Gen

/-! ### nom::sequence -/

def preceded (p : Parser α) (q : Parser β) : Parser β := do let _ ← p; q
def terminated (p : Parser α) (q : Parser β) : Parser α := do let v ← p; let _ ← q; pure v
def delimited (a : Parser α) (p : Parser β) (b : Parser γ) : Parser β := do
  let _ ← a; let v ← p; let _ ← b; pure v
def pair (p : Parser α) (q : Parser β) : Parser (α × β) := do let a ← p; let b ← q; pure (a, b)
def separatedPair (p : Parser α) (s : Parser σ) (q : Parser β) : Parser (α × β) := do
  let a ← p; let _ ← s; let b ← q; pure (a, b)

/-- `nom::combinator::recognize`: the consumed bytes -/
def recognize (p : Parser α) : Parser Bytes := fun i =>
  match p i with
  | .ok _ r => .ok (i.take (i.length - r.length)) r
  | .inc => .inc | .err => .err | .fail => .fail | .panic => .panic

/-- `Err(nom::Err::Failure(..))` -/
def failure : Parser α := failP
/-- `Err(nom::Err::Error(..))` -/
def error : Parser α := errP

theorem bind_def (p : Parser α) (f : α → Parser β) : (p >>= f) = Parser.bindP p f :=
  Parser.bind_def p f
theorem pure_def (a : α) : (pure a : Parser α) = Parser.pureP a := Parser.pure_def a

@[simp] theorem pure_bind' (a : α) (f : α → Parser β) : (pure a >>= f) = f a := rfl

@[simp] theorem bind_pure' (p : Parser α) : (p >>= fun a => pure a) = p := by
  funext i; simp only [bind_def, pure_def, Parser.bindP, Parser.pureP]; cases p i <;> rfl

@[simp] theorem bind_assoc' (p : Parser α) (f : α → Parser β) (g : β → Parser γ) :
    ((p >>= f) >>= g) = (p >>= fun a => f a >>= g) := by
  funext i; simp only [bind_def, Parser.bindP]; cases p i <;> rfl

theorem map_eq (p : Parser α) (f : α → β) : Parser.map p f = (p >>= fun a => pure (f a)) :=
  Parser.map_eq p f

theorem seq_unit (p : Parser Unit) (q : Parser β) : (p >>= fun _ => q) = (do p; q) := rfl

/-! ### leaves whose nom value (the matched bytes) the model drops unless it is used -/

class OfMatched (α : Type) where
  of : Bytes → α
instance : OfMatched Bytes := ⟨id⟩
@[default_instance] instance : OfMatched Unit := ⟨fun _ => ()⟩

/-- `tag(lit)`: nom returns the matched bytes (= the literal); the model's `tag` returns `()` -/
def tag [OfMatched α] (l : Bytes) : Parser α := Parser.map (Parser.tag l) fun _ => OfMatched.of l

/-- a separator's value is never used -/
def void (p : Parser α) : Parser Unit := Parser.map p fun _ => ()

/- `Parser.map p f` is `p >>= fun a => pure (f a)` by definition and a `Unit` value is `()`: `tag_unit`, `void_unit`,
   `bind_pure_unit` and `map_id'` are `bind_pure'` up to unfolding. -/
theorem tag_unit (l : Bytes) : (tag l : Parser Unit) = Parser.tag l := bind_pure' _

theorem tag_bytes (l : Bytes) : (tag l : Parser Bytes) = Parser.map (Parser.tag l) fun _ => l := rfl

theorem void_unit (p : Parser Unit) : void p = p := bind_pure' p

theorem bind_pure_unit (p : Parser Unit) : (p >>= fun _ => pure ()) = p := bind_pure' p

theorem map_id' (p : Parser α) : Parser.map p (fun a => a) = p := bind_pure' p

/-- `RangeInclusive<u32>` (a pair in the model) `.into()` a `UidSetMember` -/
def rangeToUid (r : Nat × Nat) : UidSetMember := .uidRange r.1 r.2

theorem rangeToUid_ite (c : Prop) [Decidable c] (a b : Nat) :
    rangeToUid (if c then (a, b) else (b, a)) = if c then .uidRange a b else .uidRange b a := by
  split <;> rfl

end Gen
