/-
  `Stable` instances for the combinators of the generated model (`Gen/Comb.lean`) and the two fixed points of
  `Gen/Fix.lean`, so that `Stable` is found by instance search on the definitions the translator generates
  from the source.  The hand-written grammar enters only where the generated parser itself refers to it: the
  functions bound by hand (`number`, `number64`, `entryName`, `idParamListNotNil`, `listRightsOptional`), the
  shape of `resp_text` (`Stable.instRespTextShape`) and the nesting recursions behind `fixBody` / `fixBodyExt`.
-/
import ImapVerif.Gen.Comb
import ImapVerif.Gen.Fix
import ImapVerif.Proofs.StableGrammar

open Bytes Parser

namespace Gen

instance (p : Parser α) (q : Parser β) [Stable p] [Stable q] : Stable (preceded p q) := by
  unfold preceded; infer_instance
instance (p : Parser α) (q : Parser β) [Stable p] [Stable q] : Stable (terminated p q) := by
  unfold terminated; infer_instance
instance (a : Parser α) (p : Parser β) (b : Parser γ) [Stable a] [Stable p] [Stable b] :
    Stable (delimited a p b) := by unfold delimited; infer_instance
instance (p : Parser α) (q : Parser β) [Stable p] [Stable q] : Stable (pair p q) := by
  unfold pair; infer_instance
instance (p : Parser α) (s : Parser σ) (q : Parser β) [Stable p] [Stable s] [Stable q] :
    Stable (separatedPair p s q) := by unfold separatedPair; infer_instance
instance [OfMatched α] (l : Bytes) : Stable (tag l : Parser α) := by unfold tag; infer_instance
instance (p : Parser α) [Stable p] : Stable (void p) := by unfold void; infer_instance
instance : Stable (failure : Parser α) := by unfold failure; infer_instance
instance : Stable (error : Parser α) := by unfold error; infer_instance
instance (d : Nat) : Stable (fixBody d) := by unfold fixBody; infer_instance
instance (d : Nat) : Stable (fixBodyExt d) := by unfold fixBodyExt; infer_instance

/-- `recognize p`: on `c ++ r` and on `c ++ r ++ x` the value is the consumed part `c` -/
instance (p : Parser α) [hp : Stable p] : Stable (recognize p) := .of fun b x => by
  have h := hp.ext b x
  simp only [recognize]
  cases hs : p b with rw [hs] at h
  | ok v r =>
    obtain ⟨h1, c, rfl⟩ := h
    rw [h1]
    exact ⟨by simp, c, rfl⟩
  | inc => trivial
  | err => rw [h]; rfl
  | fail => rw [h]; rfl
  | panic => exact h

end Gen
