/-
  C01 and C02 (the four `Stable` verdict theorems; not `prefix_incomplete`) for the parser generated from /repo's
  current source, not by transfer from the hand-written grammar:
  `Stable Gen.parser.parse_response` is found by instance search over the generated definitions
  (`Gen/StableGen.lean`), from the per-combinator instances of `Proofs/Stable.lean` and `Gen/StableComb.lean`.
  A rewrite of the source that stays within the combinators the translator knows (reordered alternatives,
  regrouped sequences, another helper) keeps these theorems even when the tie to the hand-written model is
  lost; a change that swallows `Incomplete`, imports a `complete` combinator or adds a panic site loses them.
  (On the source as it is, every function but `resp_text` is found that way; for `resp_text` the generated
  `Gen.core.text` is first rewritten to the hand model's `text` by `Gen.Tie.core_text`, so that
  `Stable.instRespTextShape` applies to the `&text[1..]` closure.  Where the search fails, the generated file
  goes through the function's own tie theorem; if that tie is broken, `sorryAx` shows in the axiom audit.)
-/
import ImapVerif.Gen.StableGen

open Bytes Parser

namespace Gen.Robust

abbrev P : Parser Response := Gen.parser.parse_response

/-- C01: no byte string makes the generated parser reach a panic site -/
theorem C01_no_panic (b : Bytes) : P b ≠ .panic := Stable.nopanic (p := P) b

/-- C02: an accept of the generated parser persists under every continuation -/
theorem C02_stable_ok (b x : Bytes) (v : Response) (r : Bytes) (h : P b = .ok v r) :
    P (b ++ x) = .ok v (r ++ x) := Stable.ok (p := P) b v r x h

/-- C02: a reject of the generated parser persists under every continuation -/
theorem C02_stable_err (b x : Bytes) :
    (P b = .err → P (b ++ x) = .err) ∧ (P b = .fail → P (b ++ x) = .fail) :=
  ⟨Stable.err (p := P) b x, Stable.fail (p := P) b x⟩

/-- C02: the remainder is a suffix of the buffer -/
theorem C02_rest_is_suffix (b : Bytes) (v : Response) (r : Bytes) (h : P b = .ok v r) : ∃ c, b = c ++ r :=
  Stable.suffix (p := P) b v r h

end Gen.Robust
