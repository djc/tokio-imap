/-
  Tactic of the generated identity theorems of `Gen/Owned.lean`.
-/

/-- `own_id f, x, h`: unfold the generated conversion `f` and split the value `x`; in every case the fields are
    mapped by conversions that `h` says are the identity, and `simp` closes with the functor laws of
    `Option.map` / `List.map` -/
macro "own_id " f:ident ", " x:ident ", " h:ident : tactic =>
  `(tactic| (unfold $f
             cases $x:ident <;> simp [$h:ident]))
