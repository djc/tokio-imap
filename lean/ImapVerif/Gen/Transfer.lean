/-
  The property theorems, restated for the parser that the translator *generated from /repo's current
  source* (`Gen.parser.parse_response`), by rewriting with the top-level tie theorem
  `Gen.Tie.parser_parse_response : Gen.parser.parse_response = Grammar.parseResponse`.

  This file is hand-written and static; `Gen/Parser.lean` and `Gen/Tie.lean` are regenerated on every
  run.  If a tie theorem of any function reachable from `parse_response` no longer checks, its proof in the
  generated `Tie.lean` is closed with `sorry` (a warning: this module still builds), the top-level tie depends
  on `sorryAx`, and the axiom audit of the theorems below, which `./check` runs, shows `sorryAx`.

  What these theorems rest on beyond the Lean kernel: the translator (syntax-directed, no search, no
  guessing: harness/vh-translate), the functions and closures it does not translate (listed with their
  fingerprints in tie/translate.cfg and in every evidence file), and nom's combinators as transcribed
  in Nom.lean.
-/
import ImapVerif.Gen.Tie
import ImapVerif.Properties.C01
import ImapVerif.Properties.C02
import ImapVerif.Properties.C03
import ImapVerif.Properties.C08
import ImapVerif.Properties.C09
import ImapVerif.Properties.C12
import ImapVerif.Properties.C13
import ImapVerif.Properties.C16

open Bytes Parser Grammar Line

namespace Gen.Transfer

abbrev P : Parser Response := Gen.parser.parse_response

theorem tie : P = Grammar.parseResponse := Gen.Tie.parser_parse_response

/-- C01: the generated parser never reaches a panic site, on any byte string -/
theorem C01_no_panic (b : Bytes) : P b ≠ .panic := by
  rw [tie]; exact C01.parse_no_panic b

/-- C02: accepts and rejects of the generated parser persist under any continuation -/
theorem C02_stable_ok (b x : Bytes) (v : Response) (r : Bytes) (h : P b = .ok v r) :
    P (b ++ x) = .ok v (r ++ x) := by
  rw [tie] at *; exact C02.parse_stable_ok b x v r h

theorem C02_stable_err (b x : Bytes) :
    (P b = .err → P (b ++ x) = .err) ∧ (P b = .fail → P (b ++ x) = .fail) := by
  rw [tie]; exact C02.parse_stable_err b x

theorem C02_prefix_incomplete (c r : Bytes) (v : Response) (h : P (c ++ r) = .ok v r)
    (p y : Bytes) (hc : c = p ++ y) (hy : y ≠ []) : P p = .inc := by
  rw [tie] at *; exact C02.prefix_incomplete c r v h p y hc hy

/-- C03 / C08: the generated parser inverts the relational RFC printer, with any continuation left
    untouched (arbitrary literal content included) -/
theorem C03_fidelity (r : Response) (e : Bytes) (h : RT.EncResponse r e) (rest : Bytes) :
    P (e ++ rest) = .ok r rest := by
  rw [tie]; exact C03.fidelity r e h rest

/-- C09: a lexically complete frame is never answered `Incomplete` by the generated parser -/
theorem C09_complete_line_verdict (b : Bytes) (n : Nat) (h : frameEnd b = some n) : P b ≠ .inc := by
  rw [tie]; exact C09.complete_line_verdict b n h

/-- C12: two spellings of one value are parsed to the same value by the generated parser -/
theorem C12_spellings_agree (r : Response) (e1 e2 : Bytes) (h1 : RT.EncResponse r e1) (h2 : RT.EncResponse r e2)
    (rest1 rest2 : Bytes) :
    ∃ v, P (e1 ++ rest1) = .ok v rest1 ∧ P (e2 ++ rest2) = .ok v rest2 := by
  rw [tie]; exact C12.spellings_agree r e1 e2 h1 h2 rest1 rest2

/-- C13: `* <numeral ≥ 2^32> ...` is a parse error of the generated parser, whatever follows -/
theorem C13_untagged_number_overflow (ds : Bytes) (hne : ds ≠ []) (hall : ∀ d ∈ ds, isDigit d = true)
    (hbig : 2 ^ 32 ≤ decVal ds) (c : UInt8) (r : Bytes) (hc : isDigit c = false) :
    P (b!"* " ++ (ds ++ c :: r)) = .err := by
  rw [tie]; exact C13.untagged_number_overflow ds hne hall hbig c r hc

end Gen.Transfer
