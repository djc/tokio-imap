import Lean.Meta.Tactic.Simp.RegisterCommand

/-- right-nested bind normal form in which generated and hand-written parser definitions meet
    (the lemmas of `Gen/Comb.lean` and `Gen/TieLemmas.lean` are tagged in the latter) -/
register_simp_attr gen_nf
