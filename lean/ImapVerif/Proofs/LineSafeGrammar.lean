/-
  `LineSafe` for every function of the grammar model below the response level, `LineEnd` (hence
  `LineOpen`) for the three response forms.  By hand: `literal` (the only construct that spans CRLF) and
  `entryName`.
-/
import ImapVerif.Proofs.LineSafe
import ImapVerif.Proofs.Num
import ImapVerif.Proofs.EntryName
import ImapVerif.Grammar.Rfc3501

open Bytes Parser Grammar Line

namespace LineSafe

instance : CRLFStop isAtomChar := ⟨not_crlf_of_two _ (by decide) (by decide)⟩
instance : CRLFStop isAstringChar := ⟨not_crlf_of_two _ (by decide) (by decide)⟩
instance : CRLFStop isTextChar := ⟨not_crlf_of_two _ (by decide) (by decide)⟩
instance : CRLFStop isTagChar := ⟨not_crlf_of_two _ (by decide) (by decide)⟩
instance : CRLFStop isQuotedNormal := ⟨not_crlf_of_two _ (by decide) (by decide)⟩

instance : LineSafe (numberB n) := by unfold numberB; infer_instance
instance : LineSafe number := by unfold number; infer_instance

/-- `{ds}CRLF` + `decVal ds` bytes is `Seg.lit`; Incomplete after `{ds}CRLF` is `OpenTail.lit`; an
    earlier Incomplete is that of a CR/LF-free keyword or number after CR/LF-free bytes -/
theorem literal_line (b : Bytes) : (literal b).Line Seg b := by
  have open_ {β : Type} {pre r : Bytes} {q : Parser β} (hq : LineOpen q) (hpre : Free pre) (h : q r = .inc) :
      SegOpen (pre ++ r) := SegOpen.prepend (Seg.of_free pre hpre) (hq.inc r h)
  have h123 : Free [123] := Free.cons (by decide) Free.nil
  have h125 : Free [125] := Free.cons (by decide) Free.nil
  refine .bind_of (open_ (pre := []) inferInstance Free.nil) fun _ r1 h1 => ?_
  cases tag_eq_ok h1
  refine .bind_of (open_ inferInstance h123) fun n r2 h2 => ?_
  obtain ⟨ds, rfl, hne, hall, rfl, -⟩ := Num.numberB_sound h2
  have hds := h123.append (digits_free ds hall)
  rw [← List.append_assoc]
  refine .bind_of (open_ inferInstance hds) fun _ r3 h3 => ?_
  cases tag_eq_ok h3
  rw [← List.append_assoc]
  refine .bind_of (open_ ⟨fun _ => crlf_open⟩ (hds.append h125)) fun _ r4 h4 => ?_
  cases tag_eq_ok h4
  refine .bind_of (fun h => ?_) fun d r5 h5 => ?_
  · exact ⟨[], _, by simp, Seg.nil, OpenTail.lit [] ds r4 Free.nil hne hall (take_eq_inc h)⟩
  · obtain ⟨rfl, hlen⟩ := take_eq_ok h5
    split
    · exact ⟨[123] ++ ds ++ [125, 13, 10] ++ d, by simp, by simpa using Seg.lit ds d [] hne hall hlen Seg.nil⟩
    · trivial

instance : LineSafe literal := .of literal_line

/-! ### core.rs, and `mailbox` / `flag` of rfc3501/mod.rs -/

instance : LineSafe number64 := by unfold number64; infer_instance
instance : LineSafe sequenceRange := by unfold sequenceRange; infer_instance
instance : LineSafe sequenceSet := by unfold sequenceSet; infer_instance
instance : LineSafe quoted := by unfold quoted; infer_instance
instance : LineSafe quotedUtf8 := by unfold quotedUtf8; infer_instance
instance : LineSafe string := by unfold string; infer_instance
instance : LineSafe stringUtf8 := by unfold stringUtf8; infer_instance
instance : LineSafe astring := by unfold astring; infer_instance
instance : LineSafe astringUtf8 := by unfold astringUtf8; infer_instance
instance : LineSafe atom := by unfold atom; infer_instance
instance : LineSafe nil := by unfold nil; infer_instance
instance : LineSafe nstring := by unfold nstring; infer_instance
instance : LineSafe nstringUtf8 := by unfold nstringUtf8; infer_instance
instance : LineSafe text := by unfold text; infer_instance
instance (p : Parser α) [LineSafe p] : LineSafe (parenDelimited p) := by unfold parenDelimited; infer_instance
instance (p : Parser α) [LineSafe p] : LineSafe (parenthesizedNonemptyList p) := by
  unfold parenthesizedNonemptyList; infer_instance
instance (p : Parser α) [LineSafe p] : LineSafe (parenthesizedList p) := by
  unfold parenthesizedList; infer_instance
instance : LineSafe mailbox := by unfold mailbox; infer_instance
instance : LineSafe flagExtension := by unfold flagExtension; infer_instance
instance : LineSafe flag := by unfold flag; infer_instance

/-! ### extensions -/

instance : LineSafe quotaResourceName := by unfold quotaResourceName; infer_instance
instance : LineSafe quotaResource := by unfold quotaResource; infer_instance
instance : LineSafe quotaList := by unfold quotaList; infer_instance
instance : LineSafe quota := by unfold quota; infer_instance
instance : LineSafe quotaRoot := by unfold quotaRoot; infer_instance
instance : LineSafe idParam := by unfold idParam; infer_instance
instance : LineSafe idParamListNotNil := by unfold idParamListNotNil; infer_instance
instance : LineSafe idParamList := by unfold idParamList; infer_instance
instance : LineSafe respId := by unfold respId; infer_instance
instance : LineSafe aclEntry := by unfold aclEntry; infer_instance
instance : LineSafe aclList := by unfold aclList; infer_instance
instance : LineSafe acl := by unfold acl; infer_instance
instance : LineSafe listRightsOptional := by unfold listRightsOptional; infer_instance
instance : LineSafe listRights := by unfold listRights; infer_instance
instance : LineSafe myRights := by unfold myRights; infer_instance
instance : LineSafe uidRange := by unfold uidRange; infer_instance
instance : LineSafe uidSet := by unfold uidSet; infer_instance
instance : LineSafe respTextCodeAppendUid := by unfold respTextCodeAppendUid; infer_instance
instance : LineSafe respTextCodeCopyUid := by unfold respTextCodeCopyUid; infer_instance
instance : LineSafe respTextCodeUidNotSticky := by unfold respTextCodeUidNotSticky; infer_instance
instance : LineSafe respTextCodeHighestModSeq := by unfold respTextCodeHighestModSeq; infer_instance
instance : LineSafe statusAttValHighestModSeq := by unfold statusAttValHighestModSeq; infer_instance
instance : LineSafe msgAttModSeq := by unfold msgAttModSeq; infer_instance
instance : LineSafe enabledData := by unfold enabledData; infer_instance
instance : LineSafe respEnabled := by unfold respEnabled; infer_instance
instance : LineSafe mailboxDataSort := by unfold mailboxDataSort; infer_instance

/-- `entry_name`: the check runs on the finished token and can only turn an accept into an error -/
instance : LineSafe entryName := by
  unfold entryName
  refine @instBind _ _ _ _ inferInstance (fun s => ?_)
  rcases EntryName.checkEntryName_total s with h | h <;> simp only [h] <;> infer_instance

instance : LineSafe nilValue := by unfold nilValue; infer_instance
instance : LineSafe stringValue := by unfold stringValue; infer_instance
instance : LineSafe keyvalList := by unfold keyvalList; infer_instance
instance : LineSafe entryList := by unfold entryList; infer_instance
instance : LineSafe metadataCommon := by unfold metadataCommon; infer_instance
instance : LineSafe metadataSolicited := by unfold metadataSolicited; infer_instance
instance : LineSafe metadataUnsolicited := by unfold metadataUnsolicited; infer_instance
instance : LineSafe respTextCodeMetadataLongEntries := by unfold respTextCodeMetadataLongEntries; infer_instance
instance : LineSafe respTextCodeMetadataMaxSize := by unfold respTextCodeMetadataMaxSize; infer_instance
instance : LineSafe respTextCodeMetadataTooMany := by unfold respTextCodeMetadataTooMany; infer_instance
instance : LineSafe respTextCodeMetadataNoPrivate := by unfold respTextCodeMetadataNoPrivate; infer_instance
instance : LineSafe respVanished := by unfold respVanished; infer_instance
instance : LineSafe gmailLabelList := by unfold gmailLabelList; infer_instance
instance : LineSafe msgAttGmailLabels := by unfold msgAttGmailLabels; infer_instance
instance : LineSafe mailboxDataGmailLabels := by unfold mailboxDataGmailLabels; infer_instance
instance : LineSafe gmailMsgId := by unfold gmailMsgId; infer_instance
instance : LineSafe msgAttGmailMsgId := by unfold msgAttGmailMsgId; infer_instance
instance : LineSafe mailboxDataGmailMsgId := by unfold mailboxDataGmailMsgId; infer_instance

/-! ### envelope, body.rs, body_structure.rs -/

instance : LineSafe address := by unfold address; infer_instance
instance : LineSafe optAddresses := by unfold optAddresses; infer_instance
instance : LineSafe envelope := by unfold envelope; infer_instance
instance : LineSafe sectionPart := by unfold sectionPart; infer_instance
instance : LineSafe sectionMsgtext := by unfold sectionMsgtext; infer_instance
instance : LineSafe sectionText := by unfold sectionText; infer_instance
instance : LineSafe sectionSpec := by unfold sectionSpec; infer_instance
instance : LineSafe section_ := by unfold section_; infer_instance
instance : LineSafe msgAttBodySection := by unfold msgAttBodySection; infer_instance
instance : LineSafe bodyParam := by unfold bodyParam; infer_instance
instance : LineSafe bodyEncoding := by unfold bodyEncoding; infer_instance
instance : LineSafe bodyLang := by unfold bodyLang; infer_instance
instance : LineSafe bodyDisposition := by unfold bodyDisposition; infer_instance
instance : LineSafe bodyFields := by unfold bodyFields; infer_instance

instance instBodyExtension : ∀ n, LineSafe (bodyExtension n)
  | 0 => by unfold bodyExtension; infer_instance
  | n + 1 => by
    have := instBodyExtension n
    unfold bodyExtension; infer_instance

instance : LineSafe (bodyExt1Part n) := by unfold bodyExt1Part; infer_instance
instance : LineSafe (bodyExtMPart n) := by unfold bodyExtMPart; infer_instance
instance : LineSafe (bodyTypeBasic n) := by unfold bodyTypeBasic; infer_instance
instance : LineSafe (bodyTypeText n) := by unfold bodyTypeText; infer_instance
instance (child : Parser BodyStructure) [LineSafe child] : LineSafe (bodyTypeMessage child n) := by
  unfold bodyTypeMessage; infer_instance
instance (child : Parser BodyStructure) [LineSafe child] : LineSafe (bodyTypeMultipart child n) := by
  unfold bodyTypeMultipart; infer_instance

instance instBodyNested : ∀ n, LineSafe (bodyNested n)
  | 0 => by unfold bodyNested; infer_instance
  | n + 1 => by
    have := instBodyNested n
    unfold bodyNested; infer_instance

instance : LineSafe body := by unfold body; infer_instance
instance : LineSafe msgAttBodyStructure := by unfold msgAttBodyStructure; infer_instance
instance : LineSafe msgAttBody := by unfold msgAttBody; infer_instance

/-! ### rfc3501/mod.rs -/

instance : LineSafe statusP := by unfold statusP; infer_instance
instance : LineSafe flagPerm := by unfold flagPerm; infer_instance
instance : LineSafe flagList := by unfold flagList; infer_instance
instance : LineSafe capability := by unfold capability; infer_instance
instance : LineSafe capabilityData := by unfold capabilityData; infer_instance
instance : LineSafe respTextCodeBadCharset := by unfold respTextCodeBadCharset; infer_instance
instance : LineSafe respTextCodePermanentFlags := by unfold respTextCodePermanentFlags; infer_instance
instance : LineSafe respTextCodeUidValidity := by unfold respTextCodeUidValidity; infer_instance
instance : LineSafe respTextCodeUidNext := by unfold respTextCodeUidNext; infer_instance
instance : LineSafe respTextCodeUnseen := by unfold respTextCodeUnseen; infer_instance
instance : LineSafe respTextCodeAlt := by unfold respTextCodeAlt; infer_instance
instance : LineSafe respTextCode := by unfold respTextCode; infer_instance
instance : LineSafe mailboxDataSearch := by unfold mailboxDataSearch; infer_instance
instance : LineSafe mailboxDataFlags := by unfold mailboxDataFlags; infer_instance
instance : LineSafe mailboxDataExists := by unfold mailboxDataExists; infer_instance
instance : LineSafe nameAttributeExt := by unfold nameAttributeExt; infer_instance
instance : LineSafe nameAttribute := by unfold nameAttribute; infer_instance
instance : LineSafe mailboxList := by unfold mailboxList; infer_instance
instance : LineSafe mailboxDataList := by unfold mailboxDataList; infer_instance
instance : LineSafe mailboxDataLsub := by unfold mailboxDataLsub; infer_instance
instance : LineSafe statusAtt := by unfold statusAtt; infer_instance
instance : LineSafe statusAttList := by unfold statusAttList; infer_instance
instance : LineSafe mailboxDataStatus := by unfold mailboxDataStatus; infer_instance
instance : LineSafe mailboxDataRecent := by unfold mailboxDataRecent; infer_instance
instance : LineSafe mailboxData := by unfold mailboxData; infer_instance
instance : LineSafe msgAttEnvelope := by unfold msgAttEnvelope; infer_instance
instance : LineSafe msgAttInternalDate := by unfold msgAttInternalDate; infer_instance
instance : LineSafe msgAttFlags := by unfold msgAttFlags; infer_instance
instance : LineSafe msgAttRfc822 := by unfold msgAttRfc822; infer_instance
instance : LineSafe msgAttRfc822Header := by unfold msgAttRfc822Header; infer_instance
instance : LineSafe msgAttRfc822Size := by unfold msgAttRfc822Size; infer_instance
instance : LineSafe msgAttRfc822Text := by unfold msgAttRfc822Text; infer_instance
instance : LineSafe msgAttUid := by unfold msgAttUid; infer_instance
instance : LineSafe msgAtt := by unfold msgAtt; infer_instance
instance : LineSafe msgAttList := by unfold msgAttList; infer_instance
instance : LineSafe messageDataFetch := by unfold messageDataFetch; infer_instance
instance : LineSafe messageDataExpunge := by unfold messageDataExpunge; infer_instance
instance : LineSafe imapTag := by unfold imapTag; infer_instance
instance : LineSafe respText := by unfold respText; infer_instance
instance : LineSafe trailingRespText := by unfold trailingRespText; infer_instance
instance : LineSafe respCond := by unfold respCond; infer_instance
instance : LineSafe responseDataAlt := by unfold responseDataAlt; infer_instance

end LineSafe

namespace LineEnd

instance : LineEnd continueReq := by unfold continueReq; infer_instance
instance : LineEnd responseTagged := by unfold responseTagged; infer_instance
instance : LineEnd responseData := by unfold responseData; infer_instance
instance : LineEnd parseResponse := by unfold parseResponse; infer_instance

end LineEnd
