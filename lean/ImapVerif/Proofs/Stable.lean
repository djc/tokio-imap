/-
  `Stable p`: the verdict of a streaming parser is final.  An accept persists (same value, rest extended) when
  bytes are appended, and so do `Err::Error` and `Err::Failure`; what is returned as rest is a suffix of the
  input; the parser never panics.
  The five fields are one relation, `Res.Ext`, between the verdict on `b` and the verdict on `b ++ x`;
  an instance is one proof by cases on the verdict on `b` (`Stable.of`).  Instances by hand for
  `pure errP failP >>= alt ite Option.elim tag tagNoCase takeWhile take escaped` and the two loops; every
  other combinator is a term over these (`NomEq.lean`).  Every grammar function then gets its instance
  by `unfold f; infer_instance`.
-/
import ImapVerif.Proofs.NomEq

open Bytes Parser

class Stable (p : Parser α) : Prop where
  suffix : ∀ b v r, p b = .ok v r → ∃ c, b = c ++ r
  ok : ∀ b v r x, p b = .ok v r → p (b ++ x) = .ok v (r ++ x)
  err : ∀ b x, p b = .err → p (b ++ x) = .err
  fail : ∀ b x, p b = .fail → p (b ++ x) = .fail
  nopanic : ∀ b, p b ≠ .panic

/-- `s.Ext b x s'`: the verdict `s` on `b` allows the verdict `s'` on `b ++ x` -/
def Res.Ext (b x : Bytes) : Res α → Res α → Prop
  | .ok v r, s' => s' = .ok v (r ++ x) ∧ ∃ c, b = c ++ r
  | .inc, _ => True
  | .err, s' => s' = .err
  | .fail, s' => s' = .fail
  | .panic, _ => False

theorem Res.Ext.prepend {s s' : Res α} (c : Bytes) (h : s.Ext r x s') : s.Ext (c ++ r) x s' := by
  cases s with
  | ok v r' => obtain ⟨h1, c', rfl⟩ := h; exact ⟨h1, c ++ c', by simp⟩
  | _ => exact h

namespace Stable

theorem of {p : Parser α} (h : ∀ b x, (p b).Ext b x (p (b ++ x))) : Stable p where
  suffix b v r hb := by have := h b []; rw [hb] at this; exact this.2
  ok b v r x hb := by have := h b x; rw [hb] at this; exact this.1
  err b x hb := by have := h b x; rw [hb] at this; exact this
  fail b x hb := by have := h b x; rw [hb] at this; exact this
  nopanic b hb := by have := h b []; rw [hb] at this; exact this

theorem ext {p : Parser α} (hp : Stable p) (b x : Bytes) : (p b).Ext b x (p (b ++ x)) := by
  cases h : p b with
  | ok v r => exact ⟨hp.ok b v r x h, hp.suffix b v r h⟩
  | inc => trivial
  | err => exact hp.err b x h
  | fail => exact hp.fail b x h
  | panic => exact hp.nopanic b h

theorem verdict {p : Parser α} [hp : Stable p] (b : Bytes) :
    (∃ v r c, p b = .ok v r ∧ b = c ++ r) ∨ p b = .inc ∨ p b = .err ∨ p b = .fail := by
  cases h : p b with
  | ok v r => obtain ⟨c, hc⟩ := hp.suffix b v r h; exact .inl ⟨v, r, c, rfl, hc⟩
  | inc => exact .inr (.inl rfl)
  | err => exact .inr (.inr (.inl rfl))
  | fail => exact .inr (.inr (.inr rfl))
  | panic => exact absurd h (hp.nopanic b)

/-- every proper prefix `q` of what a stable parser consumed is Incomplete: any other verdict on `q`
    would persist on `q ++ y ++ r`, where the verdict is the accept with rest `r` -/
theorem prefix_inc {p : Parser α} [hp : Stable p] {c r : Bytes} {v : α} (h : p (c ++ r) = .ok v r)
    {q y : Bytes} (hc : c = q ++ y) (hy : y ≠ []) : p q = .inc := by
  subst hc
  have := hp.ext q (y ++ r)
  rw [← List.append_assoc, h] at this
  cases hq : p q with rewrite [hq] at this
  | inc => rfl
  | ok v' r' =>
    injection this.1 with _ hr
    rw [← List.append_assoc, List.self_eq_append_left, List.append_eq_nil_iff] at hr
    exact absurd hr.2 hy
  | err => cases this
  | fail => cases this
  | panic => exact this.elim

instance instPure (a : α) : Stable (pure a : Parser α) := .of fun _ _ => ⟨rfl, [], rfl⟩
instance instErrP : Stable (errP : Parser α) := .of fun _ _ => rfl
instance instFailP : Stable (failP : Parser α) := .of fun _ _ => rfl

/-- sequencing; the continuation has to be stable only on the values `p` can return -/
theorem bind_of (p : Parser α) (f : α → Parser β) [hp : Stable p]
    (hf : ∀ b v r, p b = .ok v r → Stable (f v)) : Stable (p >>= f) := .of fun b x => by
  have h := hp.ext b x
  simp only [bind_def, bindP]
  cases hs : p b with rw [hs] at h
  | ok v r =>
    obtain ⟨h1, c, rfl⟩ := h
    rw [h1]
    exact ((hf _ v r hs).ext r x).prepend c
  | inc => trivial
  | err => rw [h]; rfl
  | fail => rw [h]; rfl
  | panic => exact h

instance instBind (p : Parser α) (f : α → Parser β) [Stable p] [hf : ∀ a, Stable (f a)] :
    Stable (p >>= f) := bind_of p f fun _ v _ _ => hf v

/-- `p; q`.  For this shape `instBind` asks for `∀ _ : Unit, Stable q`, and instance search counts a solution
    of that at about twice the size of one of `Stable q`: without this instance a `do` block with six
    keyword steps exceeds `synthInstance.maxSize`. -/
instance (priority := high) instSeq (p : Parser Unit) (q : Parser β) [Stable p] [Stable q] :
    Stable (p >>= fun _ => q) := inferInstance

instance instAlt (p q : Parser α) [hp : Stable p] [hq : Stable q] : Stable (alt p q) := .of fun b x => by
  have h := hp.ext b x
  simp only [alt]
  cases hs : p b with rw [hs] at h
  | err => rw [h]; exact hq.ext b x
  | ok v r => rw [h.1]; exact ⟨rfl, h.2⟩
  | inc => trivial
  | fail => rw [h]; rfl
  | panic => exact h

instance instIte (c : Prop) [Decidable c] (p q : Parser α) [hp : Stable p] [hq : Stable q] :
    Stable (if c then p else q) := by
  split <;> assumption

instance instElim (o : Option α) (e : Parser β) (f : α → Parser β) [he : Stable e] [hf : ∀ a, Stable (f a)] :
    Stable (o.elim e f) :=
  match o with
  | none => he
  | some a => hf a

theorem tagGo_ext (eq) (x : Bytes) : ∀ t b, (tagGo eq t b).Ext b x (tagGo eq t (b ++ x))
  | [], _ => ⟨rfl, [], rfl⟩
  | _ :: _, [] => trivial
  | t :: ts, c :: cs => by
    simp only [tagGo, List.cons_append]
    split
    · exact (tagGo_ext eq x ts cs).prepend [c]
    · rfl

instance instTag (t : Bytes) : Stable (tag t) := .of fun b x => tagGo_ext _ x t b
instance instTagNoCase (t : Bytes) : Stable (tagNoCase t) := .of fun b x => tagGo_ext _ x t b

instance instTakeWhile (f : UInt8 → Bool) : Stable (takeWhile f) := .of fun b x => by
  cases h : takeWhile f b with
  | ok s t =>
    obtain ⟨rfl, hs, c, r, rfl, hc⟩ := takeWhile_eq_ok h
    rw [List.append_assoc]
    exact ⟨takeWhile_stop (r ++ x) hs hc, s, rfl⟩
  | inc => trivial
  | _ => simp only [takeWhile] at h; split at h <;> cases h

instance instTake (n : Nat) : Stable (take n) := .of fun b x => by
  simp only [take]
  split
  · trivial
  · have h2 : n ≤ b.length := by omega
    rw [if_neg (by rw [List.length_append]; omega), List.take_append_of_le_length h2,
      List.drop_append_of_le_length h2]
    exact ⟨rfl, _, (List.take_append_drop n b).symm⟩

/-- Two fuels, each above the length of its input: `many0From` supplies `b.length + 1` on `b` and
    `(b ++ x).length + 1` on `b ++ x`. -/
theorem many0Go_ext (p : Parser α) [hp : Stable p] (x : Bytes) :
    ∀ n m i acc, i.length < n → (i ++ x).length < m →
      (many0Go p n i acc).Ext i x (many0Go p m (i ++ x) acc)
  | 0, _, _, _, hn, _ => absurd hn (Nat.not_lt_zero _)
  | _, 0, _, _, _, hm => absurd hm (Nat.not_lt_zero _)
  | n + 1, m + 1, i, acc, hn, hm => by
    have h := hp.ext i x
    simp only [many0Go]
    cases hs : p i with rw [hs] at h
    | err => rw [h]; exact ⟨rfl, [], rfl⟩
    | ok v r =>
      obtain ⟨h1, c, rfl⟩ := h
      rw [h1]
      -- the progress tests of the two runs become the same test, so one `split` serves both
      simp only [List.length_append, Nat.add_lt_add_iff_right] at hn hm ⊢
      split
      · exact (many0Go_ext p x n m r (v :: acc) (by omega) (by rw [List.length_append]; omega)).prepend c
      · rfl
    | inc => trivial
    | fail => rw [h]; rfl
    | panic => exact h

instance instMany0From (p : Parser α) [Stable p] (acc : List α) : Stable (many0From p acc) :=
  .of fun b x => many0Go_ext p x _ _ b acc (Nat.lt_succ_self _) (Nat.lt_succ_self _)

/-- fuel is irrelevant once it exceeds the input length: no `many0` loop runs out of fuel -/
theorem many0Go_fuel (p : Parser α) :
    ∀ n m i acc, i.length < n → i.length < m → many0Go p n i acc = many0Go p m i acc
  | 0, _, _, _, hn, _ => absurd hn (Nat.not_lt_zero _)
  | _, 0, _, _, _, hm => absurd hm (Nat.not_lt_zero _)
  | n + 1, m + 1, i, acc, hn, hm => by
    simp only [many0Go]
    cases p i with
    | ok v r =>
      dsimp only
      split
      · exact many0Go_fuel p n m r (v :: acc) (by omega) (by omega)
      · rfl
    | _ => rfl

theorem sepGo_ext (sep : Parser Unit) (p : Parser α) [hs : Stable sep] [hp : Stable p] (x : Bytes) :
    ∀ n m i acc, i.length < n → (i ++ x).length < m →
      (sepGo sep p n i acc).Ext i x (sepGo sep p m (i ++ x) acc)
  | 0, _, _, _, hn, _ => absurd hn (Nat.not_lt_zero _)
  | _, 0, _, _, _, hm => absurd hm (Nat.not_lt_zero _)
  | n + 1, m + 1, i, acc, hn, hm => by
    have h := hs.ext i x
    simp only [sepGo]
    cases hsi : sep i with rw [hsi] at h
    | err => rw [h]; exact ⟨rfl, [], rfl⟩
    | ok u i1 =>
      obtain ⟨h1, c, rfl⟩ := h
      rw [h1]
      simp only [List.length_append, Nat.add_lt_add_iff_right] at hn hm ⊢
      split
      · have h := hp.ext i1 x
        cases hpi : p i1 with rw [hpi] at h
        | err => rw [h]; exact ⟨rfl, [], rfl⟩
        | ok v i2 =>
          obtain ⟨h2, c2, rfl⟩ := h
          rw [h2]
          simp only [List.length_append] at hn hm
          exact ((sepGo_ext sep p x n m i2 (v :: acc) (by omega)
            (by rw [List.length_append]; omega)).prepend c2).prepend c
        | inc => trivial
        | fail => rw [h]; rfl
        | panic => exact h
      · rfl
    | inc => trivial
    | fail => rw [h]; rfl
    | panic => exact h

instance instSepFrom (sep : Parser Unit) (p : Parser α) [Stable sep] [Stable p] (acc : List α) :
    Stable (sepFrom sep p acc) :=
  .of fun b x => sepGo_ext sep p x _ _ b acc (Nat.lt_succ_self _) (Nat.lt_succ_self _)

/-- `sepGo` tests the progress of the separator only; that an element leaves less than it found is `suffix` -/
theorem sepGo_fuel (sep : Parser Unit) (p : Parser α) [hp : Stable p] :
    ∀ n m i acc, i.length < n → i.length < m → sepGo sep p n i acc = sepGo sep p m i acc
  | 0, _, _, _, hn, _ => absurd hn (Nat.not_lt_zero _)
  | _, 0, _, _, _, hm => absurd hm (Nat.not_lt_zero _)
  | n + 1, m + 1, i, acc, hn, hm => by
    simp only [sepGo]
    cases sep i with
    | ok u i1 =>
      dsimp only
      split
      · cases hpi : p i1 with
        | ok v i2 =>
          obtain ⟨c2, rfl⟩ := hp.suffix _ _ _ hpi
          rw [List.length_append] at *
          exact sepGo_fuel sep p n m i2 (v :: acc) (by omega) (by omega)
        | _ => rfl
      · rfl
    | _ => rfl

theorem escapedGo_ext (normal : UInt8 → Bool) (x : Bytes) :
    ∀ i acc, (escapedGo normal acc i).Ext i x (escapedGo normal acc (i ++ x))
  | [], _ => trivial
  | c :: r, acc => by
    simp only [List.cons_append, escapedGo_cons]
    split
    · exact (escapedGo_ext normal x r _).prepend [c]
    · split
      · match r with
        | [] => trivial
        | d :: r' =>
          simp only [List.cons_append]
          split
          · exact (escapedGo_ext normal x r' _).prepend [c, d]
          · rfl
      · exact ⟨rfl, [], rfl⟩

instance instEscaped (normal : UInt8 → Bool) : Stable (escaped normal) :=
  .of fun b x => escapedGo_ext normal x b []

instance instMap (p : Parser α) (f : α → β) [Stable p] : Stable (map p f) := map_eq p f ▸ inferInstance
instance instMapRes (p : Parser α) (f : α → Option β) [Stable p] : Stable (mapRes p f) :=
  mapRes_eq p f ▸ inferInstance
instance instOpt (p : Parser α) [Stable p] : Stable (opt p) := opt_eq p ▸ inferInstance
instance instOptOpt (p : Parser (Option α)) [Stable p] : Stable (optOpt p) := optOpt_eq p ▸ inferInstance
instance instTakeWhile1 (f : UInt8 → Bool) : Stable (takeWhile1 f) := takeWhile1_eq f ▸ inferInstance
instance instChar (c : UInt8) : Stable (char c) := char_eq c ▸ inferInstance
instance instSpace0 : Stable space0 := space0_eq ▸ inferInstance
instance instSpace1 : Stable space1 := space1_eq ▸ inferInstance
instance instMany0 (p : Parser α) [Stable p] : Stable (many0 p) := many0_eq p ▸ inferInstance
instance instMany1 (p : Parser α) [Stable p] : Stable (many1 p) := many1_eq p ▸ inferInstance
instance instSepList1 (sep : Parser Unit) (p : Parser α) [Stable sep] [Stable p] : Stable (sepList1 sep p) :=
  sepList1_eq sep p ▸ inferInstance
instance instSepList0 (sep : Parser Unit) (p : Parser α) [Stable sep] [Stable p] : Stable (sepList0 sep p) :=
  sepList0_eq sep p ▸ inferInstance

/-- `mapPanic` is the exception: it is stable when `f` is never `none` on what `p` returns -/
theorem mapPanic_stable (p : Parser α) (f : α → Option β) [hp : Stable p]
    (hf : ∀ b v r, p b = .ok v r → f v ≠ none) : Stable (mapPanic p f) := by
  rw [mapPanic_eq]
  refine bind_of p _ fun b v r h => ?_
  cases hv : f v with
  | none => exact absurd hv (hf b v r h)
  | some w => exact instPure w

end Stable
