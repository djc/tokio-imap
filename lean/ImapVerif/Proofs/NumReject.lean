/-
  Response-level rejection of out-of-range numerals (C13): an untagged response that begins with a
  numeral beyond 32 bits (`* 4294967296 EXISTS`, `* 99999999999 FETCH (...)`, ...) is a parse error
  of `parseResponse` as a whole - no alternative of `response_data`, and neither of the two other
  top-level forms, gives it a value.  Likewise a FETCH response in which an attribute is rejected.
-/
import ImapVerif.Proofs.RT.Resp

open Bytes Parser Grammar

namespace RT

structure BigNum (i : Bytes) : Prop where
  ex : ∃ ds c r, i = ds ++ c :: r ∧ ds ≠ [] ∧ (∀ d ∈ ds, isDigit d = true) ∧ 2 ^ 32 ≤ decVal ds ∧ isDigit c = false

theorem BigNum.number_err {i : Bytes} (h : BigNum i) : number i = .err := by
  obtain ⟨ds, c, r, rfl, hne, hall, hbig, hc⟩ := h.ex
  exact Num.numberB_rejects (2 ^ 32) ds hall hbig c r hc

theorem BigNum.head {i : Bytes} (h : BigNum i) : Starts isDigit i := by
  obtain ⟨ds, c, r, rfl, hne, hall, _, _⟩ := h.ex
  exact (Starts.of_all hne hall).append _

structure BigNum64 (i : Bytes) : Prop where
  ex : ∃ ds c r, i = ds ++ c :: r ∧ ds ≠ [] ∧ (∀ d ∈ ds, isDigit d = true) ∧ 2 ^ 64 ≤ decVal ds ∧ isDigit c = false

theorem BigNum64.number_err {i : Bytes} (h : BigNum64 i) : number64 i = .err := by
  obtain ⟨ds, c, r, rfl, hne, hall, hbig, hc⟩ := h.ex
  exact Num.numberB_rejects (2 ^ 64) ds hall hbig c r hc

/-- `response_data` on a payload that begins with a digit: the status and keyword rows cannot begin
    that way, so the verdicts of the three numeral rows decide -/
theorem responseDataAlt_err_digit {i : Bytes} (hi : Starts isDigit i) (hmb : mailboxData i = .err)
    (hex : messageDataExpunge i = .err) (hfe : messageDataFetch i = .err) : responseDataAlt i = .err :=
  responseDataAlt_chain.err_digit hi
    (List.forall_mem_cons.2 ⟨map_err _ hmb, List.forall_mem_cons.2 ⟨map_err _ hex, List.forall_mem_singleton.2 hfe⟩⟩)

theorem mailboxData_err_big {i : Bytes} (h : BigNum i) : mailboxData i = .err :=
  mailboxData_chain.err_digit h.head
    (List.forall_mem_cons.2 ⟨bind_err _ h.number_err, List.forall_mem_singleton.2 (bind_err _ h.number_err)⟩)

theorem responseDataAlt_err_big {i : Bytes} (h : BigNum i) : responseDataAlt i = .err :=
  responseDataAlt_err_digit h.head (mailboxData_err_big h) (bind_err _ h.number_err) (bind_err _ h.number_err)

theorem parseResponse_err_of_payload {i : Bytes} (h : responseDataAlt i = .err) :
    parseResponse (b!"* " ++ i) = .err := by
  have hc : continueReq (b!"* " ++ i) = .err := (First.bind (First.tag (b!"+"))).err_byte (by decide) _
  have hd : responseData (b!"* " ++ i) = .err := (bind_ok _ (tag_ok (b!"* ") i trivial)).trans (bind_err _ h)
  have ht : responseTagged (b!"* " ++ i) = .err :=
    (First.bind (First.mapRes (First.takeWhile1 isTagChar))).err_byte (by decide) _
  unfold parseResponse
  simp only [alt]
  rw [hc, hd, ht]

theorem parseResponse_err_big {i : Bytes} (h : BigNum i) : parseResponse (b!"* " ++ i) = .err :=
  parseResponse_err_of_payload (responseDataAlt_err_big h)

inductive NumAttr | uid | size | modseq | msgid

def NumAttr.kw : NumAttr → Bytes
  | .uid => b!"UID "
  | .size => b!"RFC822.SIZE "
  | .modseq => b!"MODSEQ ("
  | .msgid => b!"X-GM-MSGID "

def NumAttr.Big : NumAttr → Bytes → Prop
  | .uid, i => BigNum i
  | .size, i => BigNum i
  | .modseq, i => BigNum64 i
  | .msgid, i => BigNum64 i

/-- `msg_att` rejects `UID <too big>`, `RFC822.SIZE <too big>`, `MODSEQ (<too big>`, `X-GM-MSGID <too big>`
    in every spelling of the keyword: no other row can begin that keyword, and its own row reads the
    numeral -/
theorem msgAtt_err_big {a : NumAttr} (m : List Bool) {i : Bytes} (h : a.Big i) :
    msgAtt (spell a.kw m ++ i) = .err := by
  have T := msgAtt_chain
  cases a with
  | uid => exact T.err_kw_but rfl (by decide) (kwBind_err_after _ _ m i (bind_err _ (BigNum.number_err h)))
  | size => exact T.err_kw_but rfl (by decide) (kwBind_err_after _ _ m i (bind_err _ (BigNum.number_err h)))
  | msgid => exact T.err_kw_but rfl (by decide) (map_err _ (kwBind_err_after _ _ m i (BigNum64.number_err h)))
  | modseq =>
    refine T.err_kw_but rfl (by decide) ?_
    -- the `(` of `NumAttr.kw` is the parenthesis that `msgAttModSeq` reads after its keyword `MODSEQ `
    show msgAttModSeq (spell (b!"MODSEQ " ++ [40]) m ++ i) = .err
    rw [← spell_snoc (b!"MODSEQ ") m 40 (by decide) i]
    refine kwBind_err_after _ _ m _ (bind_err _ ?_)
    exact (bind_ok _ (char_ok 40 i trivial)).trans (bind_err _ (BigNum64.number_err h))

/-- a FETCH response whose attribute list is rejected is a parse error of the whole response parser:
    FETCH rejects it and no other alternative takes `numeral SP FETCH ...` -/
theorem parseResponse_fetch_err_of {n : Nat} {en : Bytes} (hn : n < 2 ^ 32) (hen : EncNumber n en) (m : List Bool)
    (l : Bytes) (hl : msgAttList l = .err) :
    parseResponse (b!"* " ++ (en ++ (spell (b!" FETCH ") m ++ l))) = .err := by
  refine parseResponse_err_of_payload (responseDataAlt_err_digit ((encNumber_head hen).append _)
    (mailboxData_err_num _ m l hn hen (by decide) (by decide))
    (numKw_err _ _ _ m l hn hen (by decide)) ?_)
  exact (bind_ok _ (number_enc (2 ^ 32) hn hen _ (spell_space_head _ m l))).trans
    (kwBind_err_after _ _ m l (bind_err _ hl))

theorem parseResponse_fetch_err {n : Nat} {en : Bytes} (hn : n < 2 ^ 32) (hen : EncNumber n en) (m : List Bool)
    (a : Bytes) (ha : msgAtt a = .err) :
    parseResponse (b!"* " ++ (en ++ (spell (b!" FETCH ") m ++ 40 :: a))) = .err := by
  refine parseResponse_fetch_err_of hn hen m _ ?_
  refine (bind_ok _ (char_ok 40 a trivial)).trans (bind_err _ ?_)
  unfold sepList1
  rw [ha]

/-- the attribute list `( a1 SP a2 ... SP ak SP <rejected attribute>`: the list ends in front of the
    separator and the closing parenthesis is missing -/
theorem msgAttList_err_later (first : Bytes × AttributeValue) (others : List (Bytes × AttributeValue))
    (hall : ∀ x ∈ first :: others, EncAttr x.2 x.1) (bad : Bytes) (hbad : msgAtt bad = .err) :
    msgAttList ([40] ++ ((first.1 ++ (others.map fun x => [32] ++ x.1).flatten) ++ 32 :: bad)) = .err := by
  let F : Bytes → Prop := fun r => ∃ b, r = 32 :: b ∧ msgAtt b = .err
  have hlist := Parses.sepList1_const (sep := char 32) (p := msgAtt) [32] (by simp) (Starts notDigit) F
    first others (char_ok 32) (fun y hy => msgAtt_enc (hall y hy)) (fun r => .cons (by decide) r)
    (fun r ⟨b, hr, _⟩ => hr ▸ .cons (by decide) b)
    (fun r ⟨b, hr, hb⟩ => hr ▸ .inr ⟨b, char_ok 32 b trivial, Nat.lt_succ_self _, hb⟩)
    (32 :: bad) ⟨bad, rfl, hbad⟩
  refine (bind_ok _ (char_ok 40 _ trivial)).trans ((bind_ok _ hlist).trans (bind_err _ ?_))
  exact char_err 41 32 bad (by decide)

theorem parseResponse_fetch_err_later {n : Nat} {en : Bytes} (hn : n < 2 ^ 32) (hen : EncNumber n en) (m : List Bool)
    (first : Bytes × AttributeValue) (others : List (Bytes × AttributeValue))
    (hall : ∀ x ∈ first :: others, EncAttr x.2 x.1) (bad : Bytes) (hbad : msgAtt bad = .err) :
    parseResponse (b!"* " ++ (en ++ (spell (b!" FETCH ") m ++
      ([40] ++ ((first.1 ++ (others.map fun x => [32] ++ x.1).flatten) ++ 32 :: bad))))) = .err :=
  parseResponse_fetch_err_of hn hen m _ (msgAttList_err_later first others hall bad hbad)

end RT
