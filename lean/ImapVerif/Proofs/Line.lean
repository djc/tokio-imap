/-
  Lexical structure of IMAP frames (C09).

  `frameEnd`  : the independent lexical framer (scan to CRLF; if the line ends in `{n}` skip n bytes
                and continue) - written from the IMAP framing rule, not from the parser.
  `Seg c`     : `c` consists of bytes other than CR/LF and of whole literals `{n}CRLF` + n bytes.
  `SegOpen b` : `b` is a `Seg` followed by an unfinished tail (CR/LF-free run, optionally one CR, or a
                literal header with fewer than n content bytes).
  Key lemma   : a `SegOpen` buffer contains no complete frame (`frameEnd_none_of_segOpen`).
-/
import ImapVerif.Proofs.NomEq

open Bytes

namespace Line

def isCRLFByte (c : UInt8) : Bool := c == 13 || c == 10

/-- `{digits}` at the end of a line: the announced literal length -/
def litSuffix (line : Bytes) : Option Nat :=
  match line.reverse with
  | 125 :: t =>
    let ds := (t.takeWhile isDigit).reverse
    match t.dropWhile isDigit with
    | 123 :: _ => if ds = [] then none else some (decVal ds)
    | _ => none
  | _ => none

def findCRLF : Bytes → Option Nat
  | [] => none
  | [_] => none
  | a :: b :: r => if a == 13 && b == 10 then some 0 else (findCRLF (b :: r)).map (· + 1)

/-- the independent lexical framer: length of the first complete frame, if the buffer holds one.
    `fuel` bounds the number of literals crossed (`length + 1` always suffices). -/
def frameEndGo : Nat → Bytes → Option Nat
  | 0, _ => none
  | fuel + 1, b =>
    match findCRLF b with
    | none => none
    | some i =>
      match litSuffix (b.take i) with
      | none => some (i + 2)
      | some n =>
        if b.length < i + 2 + n then none
        else (frameEndGo fuel (b.drop (i + 2 + n))).map (· + (i + 2 + n))

def frameEnd (b : Bytes) : Option Nat := frameEndGo (b.length + 1) b

def Free (t : Bytes) : Prop := ∀ c ∈ t, isCRLFByte c = false

inductive Seg : Bytes → Prop
  | nil : Seg []
  | byte (c : UInt8) (s : Bytes) : isCRLFByte c = false → Seg s → Seg (c :: s)
  | lit (ds content s : Bytes) : ds ≠ [] → (∀ d ∈ ds, isDigit d = true) → content.length = decVal ds →
      Seg s → Seg ([123] ++ ds ++ [125, 13, 10] ++ content ++ s)

theorem Seg.append {a b : Bytes} (ha : Seg a) (hb : Seg b) : Seg (a ++ b) := by
  induction ha with
  | nil => simpa
  | byte c s hc _ ih => exact Seg.byte c _ hc ih
  | lit ds content s h1 h2 h3 _ ih =>
    have := Seg.lit ds content (s ++ b) h1 h2 h3 ih
    simpa [List.append_assoc] using this

theorem Seg.of_free (t : Bytes) (h : Free t) : Seg t := by
  induction t with
  | nil => exact Seg.nil
  | cons c cs ih => exact Seg.byte c cs (h c (by simp)) (ih fun x hx => h x (by simp [hx]))

/-- what an unfinished parse may have in hand after the consumed part -/
inductive OpenTail : Bytes → Prop
  | free (t : Bytes) : Free t → OpenTail t
  | cr (t : Bytes) : Free t → OpenTail (t ++ [13])
  | lit (t ds content : Bytes) : Free t → ds ≠ [] → (∀ d ∈ ds, isDigit d = true) →
      content.length < decVal ds → OpenTail (t ++ [123] ++ ds ++ [125, 13, 10] ++ content)

def SegOpen (b : Bytes) : Prop := ∃ c t, b = c ++ t ∧ Seg c ∧ OpenTail t

theorem SegOpen.prepend {a b : Bytes} (ha : Seg a) (hb : SegOpen b) : SegOpen (a ++ b) := by
  obtain ⟨c, t, rfl, hc, ht⟩ := hb
  exact ⟨a ++ c, t, by simp, ha.append hc, ht⟩

theorem SegOpen.of_free (t : Bytes) (h : Free t) : SegOpen t :=
  ⟨[], t, by simp, Seg.nil, OpenTail.free t h⟩

theorem Free.append {a b : Bytes} (ha : Free a) (hb : Free b) : Free (a ++ b) :=
  List.forall_mem_append.mpr ⟨ha, hb⟩

theorem Free.nil : Free [] := fun _ h => nomatch h

theorem Free.cons {c : UInt8} {t : Bytes} (hc : isCRLFByte c = false) (ht : Free t) : Free (c :: t) :=
  List.forall_mem_cons.mpr ⟨hc, ht⟩

theorem findCRLF_cons_of_ne {a : UInt8} (ha : isCRLFByte a = false) (l : Bytes) :
    findCRLF (a :: l) = (findCRLF l).map (· + 1) := by
  have : (a == 13) = false := by simp only [isCRLFByte, Bool.or_eq_false_iff] at ha; exact ha.1
  cases l with
  | nil => rfl
  | cons b r => simp only [findCRLF, this, Bool.false_and]; rfl

theorem findCRLF_free_append (t r : Bytes) (h : Free t) :
    findCRLF (t ++ r) = (findCRLF r).map (· + t.length) := by
  induction t with
  | nil => simp
  | cons a t ih =>
    rw [List.cons_append, findCRLF_cons_of_ne (h a (by simp)), ih fun x hx => h x (by simp [hx])]
    cases findCRLF r <;> simp [Nat.add_assoc]

theorem findCRLF_free (t : Bytes) (h : Free t) : findCRLF t = none := by
  simpa [findCRLF] using findCRLF_free_append t [] h

theorem findCRLF_free_cr (t : Bytes) (h : Free t) : findCRLF (t ++ [13]) = none :=
  findCRLF_free_append t [13] h

theorem findCRLF_prefix (t r : Bytes) (h : Free t) : findCRLF (t ++ 13 :: 10 :: r) = some t.length := by
  simp [findCRLF_free_append t _ h, findCRLF]

/-- two evaluations instead of a table over all bytes -/
theorem not_crlf_of_two (f : UInt8 → Bool) (h13 : f 13 = false) (h10 : f 10 = false) (c : UInt8)
    (hc : f c = true) : isCRLFByte c = false := by
  cases h : isCRLFByte c with
  | false => rfl
  | true =>
    simp only [isCRLFByte, Bool.or_eq_true, beq_iff_eq] at h
    rcases h with rfl | rfl
    · rw [h13] at hc; cases hc
    · rw [h10] at hc; cases hc

theorem isDigit_not_crlf : ∀ c, isDigit c = true → isCRLFByte c = false :=
  not_crlf_of_two _ (by decide) (by decide)

theorem digits_free (ds : Bytes) (h : ∀ d ∈ ds, isDigit d = true) : Free ds :=
  fun c hc => isDigit_not_crlf c (h c hc)

theorem litSuffix_lit (pre ds : Bytes) (hne : ds ≠ []) (hall : ∀ d ∈ ds, isDigit d = true) :
    litSuffix (pre ++ [123] ++ ds ++ [125]) = some (decVal ds) := by
  have hrev : (pre ++ [123] ++ ds ++ [125]).reverse = 125 :: (ds.reverse ++ 123 :: pre.reverse) := by
    simp
  obtain ⟨h1, h2⟩ := List.span_stop (f := isDigit) (c := 123) pre.reverse
    (fun d hd => hall d (List.mem_reverse.mp hd)) rfl
  simp only [litSuffix, hrev, h1, h2, List.reverse_reverse, if_neg hne]

theorem frameEndGo_line (fuel : Nat) (l rest : Bytes) (hl : Free l) :
    frameEndGo (fuel + 1) (l ++ 13 :: 10 :: rest) =
      match litSuffix l with
      | none => some (l.length + 2)
      | some n =>
        if rest.length < n then none
        else (frameEndGo fuel (rest.drop n)).map (· + (l.length + 2 + n)) := by
  simp only [frameEndGo, findCRLF_prefix l rest hl, List.take_left' rfl]
  cases litSuffix l with
  | none => rfl
  | some n =>
    have hlen : (l ++ 13 :: 10 :: rest).length < l.length + 2 + n ↔ rest.length < n := by
      simp only [List.length_append, List.length_cons]; omega
    simp only [hlen]
    rw [Nat.add_assoc, ← List.drop_drop, List.drop_left, Nat.add_comm 2 n]
    rfl

/-- a line that ends in a literal header holds no frame when the literal is cut short or no frame follows it -/
theorem frameEndGo_lit (fuel : Nat) {pre ds : Bytes} (rest : Bytes) (hpre : Free pre) (hne : ds ≠ [])
    (hall : ∀ d ∈ ds, isDigit d = true)
    (h : decVal ds ≤ rest.length → frameEndGo fuel (rest.drop (decVal ds)) = none) :
    frameEndGo (fuel + 1) (pre ++ [123] ++ ds ++ [125, 13, 10] ++ rest) = none := by
  have hl : Free (pre ++ [123] ++ ds ++ [125]) :=
    ((hpre.append (Free.cons rfl Free.nil)).append (digits_free ds hall)).append (Free.cons rfl Free.nil)
  have e : pre ++ [123] ++ ds ++ [125, 13, 10] ++ rest = (pre ++ [123] ++ ds ++ [125]) ++ 13 :: 10 :: rest :=
    (List.append_assoc _ [125, 13, 10] rest).trans (List.append_assoc _ [125] (13 :: 10 :: rest)).symm
  rw [e, frameEndGo_line fuel _ rest hl, litSuffix_lit pre ds hne hall]
  dsimp only
  by_cases hs : rest.length < decVal ds
  · exact if_pos hs
  · rw [h (Nat.le_of_not_lt hs)]
    exact if_neg hs

theorem frameEndGo_tail {pre t : Bytes} (hpre : Free pre) (ht : OpenTail t) :
    ∀ fuel, frameEndGo fuel (pre ++ t) = none
  | 0 => rfl
  | fuel + 1 => by
    cases ht with
    | free t hfree => rw [frameEndGo, findCRLF_free _ (hpre.append hfree)]
    | cr t hfree => rw [frameEndGo, ← List.append_assoc, findCRLF_free_cr _ (hpre.append hfree)]
    | lit t ds content hfree hne hall hlen =>
      simp only [← List.append_assoc]
      exact frameEndGo_lit fuel content (hpre.append hfree) hne hall fun h => absurd h (Nat.not_le_of_lt hlen)

/-- a buffer that ends inside a frame holds no complete frame.  The induction over `Seg` goes byte by byte
    while the framer goes line by line: `pre` collects the CR/LF-free bytes of the current line that precede
    the `Seg`, and a literal starts a new line with `pre = []` and less fuel. -/
theorem frameEndGo_open {c : Bytes} (hc : Seg c) :
    ∀ fuel (pre t : Bytes), Free pre → OpenTail t → frameEndGo fuel (pre ++ c ++ t) = none := by
  induction hc with
  | nil => intro fuel pre t hpre ht; rw [List.append_nil]; exact frameEndGo_tail hpre ht fuel
  | byte x s hx _ ih =>
    intro fuel pre t hpre ht
    have := ih fuel (pre ++ [x]) t (hpre.append (Free.cons hx Free.nil)) ht
    rwa [List.append_assoc pre [x] s] at this
  | lit ds content s hne hall hlen _ ih =>
    intro fuel pre t hpre ht
    cases fuel with
    | zero => rfl
    | succ fuel =>
      have e : pre ++ ([123] ++ ds ++ [125, 13, 10] ++ content ++ s) ++ t
          = pre ++ [123] ++ ds ++ [125, 13, 10] ++ (content ++ (s ++ t)) := by simp only [List.append_assoc]
      rw [e]
      refine frameEndGo_lit fuel _ hpre hne hall fun _ => ?_
      rw [← hlen, List.drop_left]
      exact ih fuel [] t Free.nil ht

theorem frameEnd_none_of_segOpen (b : Bytes) (h : SegOpen b) : frameEnd b = none := by
  obtain ⟨c, t, rfl, hc, ht⟩ := h
  exact frameEndGo_open hc _ [] t Free.nil ht

end Line
