/-
  Round-trip for mailbox data (rfc3501/mod.rs `mailbox_data`: FLAGS, EXISTS, RECENT, LIST, LSUB, STATUS,
  SEARCH; rfc5256.rs SORT; gmail.rs X-GM-LABELS, X-GM-MSGID), for EXPUNGE, and for the METADATA responses
  of rfc5464.rs.  Each datum goes to its row of `mailboxData_chain`; a lemma is stated for the follow set
  that the end of its encoding needs, which the end of the line (`SP* CRLF`) then has to meet.
-/
import ImapVerif.Proofs.RT.Leaf
import ImapVerif.Proofs.RT.Tables

open Bytes Parser Grammar

namespace RT

/-! ### EXISTS, RECENT, EXPUNGE -/

theorem mailboxData_exists {n : Nat} {e : Bytes} (hn : n < 2 ^ 32) (he : EncNumber n e) (m : List Bool) :
    Parses mailboxData (e ++ spell (b!" EXISTS") m) (.exists_ n) Any :=
  mailboxData_chain.parses_digit 1 rfl ((encNumber_head he).append _) (fun _ _ _ hrow => nomatch hrow)
    (numKw_enc (b!"EXISTS") MailboxDatum.exists_ hn he m)

/-- RECENT comes after EXISTS, which reads the numeral and rejects the keyword -/
theorem mailboxData_recent {n : Nat} {e : Bytes} (hn : n < 2 ^ 32) (he : EncNumber n e) (m : List Bool) :
    Parses mailboxData (e ++ spell (b!" RECENT") m) (.recent n) Any := by
  refine mailboxData_chain.parses_digit 5 rfl ((encNumber_head he).append _) (fun rest _ row hrow => ?_)
    (numKw_enc (b!"RECENT") MailboxDatum.recent hn he m)
  obtain rfl := List.mem_singleton.1 hrow
  rw [List.append_assoc]
  exact numKw_err (b!" EXISTS") MailboxDatum.exists_ (b!"RECENT") m rest hn he (by decide)

theorem messageDataExpunge_enc {n : Nat} {e : Bytes} (hn : n < 2 ^ 32) (he : EncNumber n e) (m : List Bool) :
    Parses messageDataExpunge (e ++ spell (b!" EXPUNGE") m) n Any :=
  numKw_enc (b!"EXPUNGE") id hn he m

/-- the simple numeric untagged responses -/
inductive EncNumeric : Response → Bytes → Prop
  | exists_ (n : Nat) (e : Bytes) (m : List Bool) : n < 2 ^ 32 → EncNumber n e →
      EncNumeric (.mailboxData (.exists_ n)) (e ++ spell (b!" EXISTS") m)
  | recent (n : Nat) (e : Bytes) (m : List Bool) : n < 2 ^ 32 → EncNumber n e →
      EncNumeric (.mailboxData (.recent n)) (e ++ spell (b!" RECENT") m)
  | expunge (n : Nat) (e : Bytes) (m : List Bool) : n < 2 ^ 32 → EncNumber n e →
      EncNumeric (.expunge n) (e ++ spell (b!" EXPUNGE") m)

/-! ### FLAGS -/

theorem mailboxData_flags {vs : List Bytes} {e : Bytes} (he : EncList EncFlagPerm vs e) (m : List Bool) :
    Parses mailboxData (spell (b!"FLAGS ") m ++ e) (.flags vs) Any :=
  mailboxData_chain.parses_kw rfl (.kw m ((flagList_enc he Any).last))

/-! ### SEARCH, SORT -/

theorem numbers_many0 (items : List (Bytes × Nat)) (hall : ∀ x ∈ items, x.2 < 2 ^ 32 ∧ EncNumber x.2 x.1) :
    Parses (many0 (do tag (b!" "); number)) (items.map fun x => b!" " ++ x.1).flatten (items.map (·.2))
      (EndOfItems 32 notDigit) :=
  .many0_b 32 (by decide) items (fun x hx => number_enc _ (hall x hx).1 (hall x hx).2)
    fun _ ht => (First.number _).err_compl ht

/-- SEARCH / SORT: the keyword, the numbers, and the tolerated trailing space -/
inductive EncNumList : Bytes → List Nat → Bool → Bytes → Prop
  | mk (kw : Bytes) (m : List Bool) (items : List (Bytes × Nat)) (sp : Bool) :
      (∀ x ∈ items, x.2 < 2 ^ 32 ∧ EncNumber x.2 x.1) →
      EncNumList kw (items.map (·.2)) sp
        (spell kw m ++ ((items.map fun x => b!" " ++ x.1).flatten ++ (if sp then b!" " else [])))

/-- with the trailing space a digit would be read as one more number; without it a space would be taken as a
    separator or as that trailing space.  In a response what follows is further spaces or CR. -/
def AfterNumList (sp : Bool) : Bytes → Prop := Starts fun c => notDigit c && (sp || c != 32)

theorem afterNumList_line (sp : Bool) (k : Nat) (hk : sp = false → k = 0) (rest : Bytes) :
    AfterNumList sp (List.replicate k 32 ++ (b!"\r\n" ++ rest)) := by
  cases sp with
  | true => exact lineEnd_starts (by decide) k rest
  | false => rw [hk rfl]; exact .cons (by decide) _

/-- SEARCH and SORT: one production under two keywords, in two rows of `mailbox_data` -/
theorem numList_enc {kw : Bytes} {g : List Nat → MailboxDatum} {hs : List Tok}
    (hk : mailboxDataRows[kwRow mailboxDataRows kw]? = some (hs, do
      tagNoCase kw; let v ← many0 (do tag (b!" "); number); let _ ← opt (tag (b!" ")); pure (g v)))
    {v : List Nat} {sp : Bool} {e : Bytes} (h : EncNumList kw v sp e) :
    Parses mailboxData e (g v) (AfterNumList sp) := by
  cases h with
  | mk m items sp hall =>
    refine mailboxData_chain.parses_kw hk (.kw m ?_)
    have hnums := numbers_many0 items hall
    cases sp with
    | true =>
      exact .bind hnums ((Parses.optSome (tag_ok _)).last).any fun r hr =>
        .inr ⟨r, rfl, hr.mono fun _ hc => (Bool.and_eq_true_iff.1 hc).1⟩
    | false => exact .bind hnums (Parses.last (.optNone fun _ hr => tag_err_class (by simp) hr)) fun _ hr => .inl hr

theorem mailboxData_search {v : List Nat} {sp : Bool} {e : Bytes} (h : EncNumList (b!"SEARCH") v sp e) :
    Parses mailboxData e (.search v) (AfterNumList sp) :=
  numList_enc rfl h

theorem mailboxData_sort {v : List Nat} {sp : Bool} {e : Bytes} (h : EncNumList (b!"SORT") v sp e) :
    Parses mailboxData e (.sort v) (AfterNumList sp) :=
  numList_enc rfl h

/-! ### LIST / LSUB -/

/-- a mailbox name attribute on the wire: `\` and atom characters; its value is the classification
    of that complete flag (a known attribute in any case, otherwise the extension as sent) -/
inductive EncNameAttr : NameAttribute → Bytes → Prop
  | mk (s : Bytes) : (∀ c ∈ s, isAtomChar c = true) → validUtf8 (92 :: s) = true →
      EncNameAttr (classifyNameAttribute (92 :: s)) (92 :: s)

theorem nameAttribute_first : First [.word (b!"\\")] nameAttribute := .map (.mapRes (.bind (.tag _)))

theorem nameAttribute_enc {v : NameAttribute} {e : Bytes} (h : EncNameAttr v e) :
    Parses nameAttribute e v (Starts notAtomChar) := by
  cases h with
  | mk s hall hu =>
    refine .map (.mapRes (v := 92 :: s) ?_ (if_pos hu))
    exact .seq (e1 := [92]) (tag_ok _) ((takeWhile_ok isAtomChar s hall).last)

/-- the hierarchy delimiter: a quoted string or NIL -/
inductive EncDelim : Option Bytes → Bytes → Prop
  | nil (m : List Bool) : EncDelim none (spell (b!"NIL") m)
  | some (s : Bytes) : Quotable s → validUtf8 s = true → EncDelim (some s) ([34] ++ s ++ [34])

theorem delim_enc {v : Option Bytes} {e : Bytes} (h : EncDelim v e) :
    Parses (alt (map quotedUtf8 some) (map nil fun _ => none)) e v Any := by
  cases h with
  | nil m =>
    refine .altR (.map (nil_enc m)) fun rest _ => ?_
    exact (First.map (.mapRes quoted_first)).err_oneOf ((nil_head m).append rest) (by decide)
  | some s hq hu => exact .altL (.map (.mapRes (quoted_enc hq) (if_pos hu)))

/-- `(attrs) SP delimiter SP mailbox` -/
inductive EncMailboxList : List NameAttribute → Option Bytes → Bytes → Bytes → Prop
  | mk (attrs : List NameAttribute) (ea : Bytes) (d : Option Bytes) (ed : Bytes) (name ename : Bytes) :
      EncList EncNameAttr attrs ea → EncDelim d ed → EncAString name ename → validUtf8 name = true →
      EncMailboxList attrs d (canonMailbox name) (ea ++ (b!" " ++ (ed ++ (b!" " ++ ename))))

theorem mailboxList_enc {attrs : List NameAttribute} {d : Option Bytes} {name : Bytes} {e : Bytes}
    (h : EncMailboxList attrs d name e) :
    Parses mailboxList e (attrs, d, name) (Starts notAstringChar) := by
  cases h with
  | mk ea d ed name ename ha hd hn hu =>
    exact
      .seq (parenthesizedList_enc nameAttribute_enc (by decide) nameAttribute_first (by decide) ha Any) <|
      .seq (tag_ok _) <| .seq (delim_enc hd) <| .seq (tag_ok _) <| (mailbox_enc hn hu).last

/-- LIST and LSUB both yield `MailboxDatum.list` -/
theorem mailboxData_list (lsub : Bool) (m : List Bool) {attrs : List NameAttribute} {d : Option Bytes}
    {name : Bytes} {e : Bytes} (h : EncMailboxList attrs d name e) :
    Parses mailboxData (spell (if lsub then b!"LSUB " else b!"LIST ") m ++ e) (.list attrs d name)
      (Starts notAstringChar) := by
  have hl := mailboxList_enc h
  cases lsub with
  | false => exact mailboxData_chain.parses_kw rfl (.kw m (hl.last))
  | true => exact mailboxData_chain.parses_kw rfl (.kw m (hl.last))

/-! ### STATUS -/

inductive EncStatusAtt : StatusAttribute → Bytes → Prop
  | highestModSeq (m : List Bool) (n : Nat) (e : Bytes) : n < 2 ^ 64 → EncNumber n e →
      EncStatusAtt (.highestModSeq n) (spell (b!"HIGHESTMODSEQ ") m ++ e)
  | messages (m : List Bool) (n : Nat) (e : Bytes) : n < 2 ^ 32 → EncNumber n e →
      EncStatusAtt (.messages n) (spell (b!"MESSAGES ") m ++ e)
  | recent (m : List Bool) (n : Nat) (e : Bytes) : n < 2 ^ 32 → EncNumber n e →
      EncStatusAtt (.recent n) (spell (b!"RECENT ") m ++ e)
  | uidNext (m : List Bool) (n : Nat) (e : Bytes) : n < 2 ^ 32 → EncNumber n e →
      EncStatusAtt (.uidNext n) (spell (b!"UIDNEXT ") m ++ e)
  | uidValidity (m : List Bool) (n : Nat) (e : Bytes) : n < 2 ^ 32 → EncNumber n e →
      EncStatusAtt (.uidValidity n) (spell (b!"UIDVALIDITY ") m ++ e)
  | unseen (m : List Bool) (n : Nat) (e : Bytes) : n < 2 ^ 32 → EncNumber n e →
      EncStatusAtt (.unseen n) (spell (b!"UNSEEN ") m ++ e)

theorem statusAtt_enc {v : StatusAttribute} {e : Bytes} (h : EncStatusAtt v e) :
    Parses statusAtt e v (Starts notDigit) := by
  cases h with
  | highestModSeq m n e hn he => exact statusAtt_chain.parses_kwNum rfl m hn he
  | messages m n e hn he => exact statusAtt_chain.parses_kwNum rfl m hn he
  | recent m n e hn he => exact statusAtt_chain.parses_kwNum rfl m hn he
  | uidNext m n e hn he => exact statusAtt_chain.parses_kwNum rfl m hn he
  | uidValidity m n e hn he => exact statusAtt_chain.parses_kwNum rfl m hn he
  | unseen m n e hn he => exact statusAtt_chain.parses_kwNum rfl m hn he

theorem mailboxData_status (m : List Bool) {name ename : Bytes} (hn : EncAString name ename)
    (hu : validUtf8 name = true) {items : List StatusAttribute} {ei : Bytes} (hi : EncList EncStatusAtt items ei) :
    Parses mailboxData (spell (b!"STATUS ") m ++ (ename ++ (b!" " ++ ei))) (.status (canonMailbox name) items) Any :=
  mailboxData_chain.parses_kw rfl <|
    .kw m <|
    .bindS (mailbox_enc hn hu) (.cons (by decide) _) <|
    .seq (tag_ok _) <|
    (parenthesizedList_enc statusAtt_enc (by decide) statusAtt_chain.first (by decide) hi Any).last

/-! ### Gmail mailbox data -/

theorem mailboxData_gmailLabels (m : List Bool) {vs : List Bytes} {e : Bytes} (he : EncList EncLabel vs e) :
    Parses mailboxData (spell (b!"X-GM-LABELS ") m ++ e) (.gmailLabels vs) Any :=
  mailboxData_chain.parses_kw rfl <| .map <|
    .kw m (parenthesizedList_enc label_enc (by decide) label_first (by decide) he Any)

theorem mailboxData_gmailMsgId (m : List Bool) {n : Nat} {e : Bytes} (hn : n < 2 ^ 64) (he : EncNumber n e) :
    Parses mailboxData (spell (b!"X-GM-MSGID ") m ++ e) (.gmailMsgId n) (Starts notDigit) :=
  mailboxData_chain.parses_kw rfl <| .map <|
    .kw m (number_enc (2 ^ 64) hn he)

/-! ### METADATA -/

/-- an entry name: an astring that passes the entry-name check of rfc5464.rs -/
def EncEntry (s e : Bytes) : Prop := EncAString s e ∧ checkEntryName s = .ok ∧ validUtf8 s = true

theorem entry_first : First [.cls isAstringChar, .cls (· == 34), .word (b!"{")] (mapRes entryName utf8) :=
  .mapRes (.bind astring_first)

theorem entry_enc {s e : Bytes} (h : EncEntry s e) : Parses (mapRes entryName utf8) e s (Starts notAstringChar) := by
  obtain ⟨hs, hc, hu⟩ := h
  refine .mapRes (v := s) (.bind_nil (astring_enc hs) ?_) (if_pos hu)
  rw [hc]
  exact .pure s _

/-- a metadata value: NIL or a string -/
inductive EncMetaValue : Option Bytes → Bytes → Prop
  | nil (m : List Bool) : EncMetaValue none (spell (b!"NIL") m)
  | str (s e : Bytes) : EncString s e → validUtf8 s = true → EncMetaValue (some s) e

theorem metaValue_enc {v : Option Bytes} {e : Bytes} (h : EncMetaValue v e) :
    Parses (alt nilValue stringValue) e v Any := by
  cases h with
  | nil m => exact .altL (kwOnly_enc _ none m Any)
  | str s e hs hu =>
    refine .altR (.mapRes (v := s) (string_enc hs) (by simp [utf8, hu])) fun rest _ => ?_
    exact (First.map (.tagNoCase _)).err_oneOf ((encString_head hs).append rest) (by decide)

inductive EncKeyval : Metadata → Bytes → Prop
  | mk (entry ee : Bytes) (value : Option Bytes) (ev : Bytes) : EncEntry entry ee → EncMetaValue value ev →
      EncKeyval { entry := entry, value := value } (ee ++ (b!" " ++ ev))

def keyvalP : Parser Metadata := do
  let entry ← mapRes entryName utf8
  tag (b!" ")
  let value ← alt nilValue stringValue
  pure { entry, value }

theorem keyval_enc {v : Metadata} {e : Bytes} (h : EncKeyval v e) : Parses keyvalP e v Any := by
  cases h with
  | mk entry ee value ev he hv =>
    exact .bindS (entry_enc he) (.cons (by decide) _) <| .seq (tag_ok _) <|
      (metaValue_enc hv).last

theorem metadataCommon_enc (m : List Bool) {name ename : Bytes} (hn : EncAString name ename)
    (hu : validUtf8 name = true) :
    Parses metadataCommon (spell (b!"METADATA ") m ++ (ename ++ b!" ")) (canonMailbox name) Any :=
  .kw m <| .bindS (mailbox_enc hn hu) (.cons (by decide) _) ((tag_ok _).last)

theorem metadataSolicited_enc (m : List Bool) {name ename : Bytes} (hn : EncAString name ename)
    (hu : validUtf8 name = true) (first : Bytes × Metadata) (others : List (Bytes × Metadata))
    (hall : ∀ x ∈ first :: others, EncKeyval x.2 x.1) :
    Parses metadataSolicited
      (spell (b!"METADATA ") m ++ (ename ++ b!" ") ++
        ([40] ++ (first.1 ++ (others.map fun x => [32] ++ x.1).flatten) ++ [41]))
      (.mailboxData (.metadataSolicited (canonMailbox name) (first.2 :: others.map (·.2)))) Any :=
  .seq (metadataCommon_enc m hn hu) <|
    (parenthesizedNonemptyList_enc (S := spaceOrClose) (fun h => (keyval_enc h).any) (by decide)
      first others hall Any).last

/-- the solicited form rejects an entry list: no parenthesis after the mailbox -/
theorem metadataSolicited_err_entries (m : List Bool) {name ename : Bytes} (hn : EncAString name ename)
    (hu : validUtf8 name = true) {i : Bytes} (hi : Starts astringHead i) :
    metadataSolicited (spell (b!"METADATA ") m ++ (ename ++ b!" ") ++ i) = .err := by
  obtain ⟨c, t, rfl, hc⟩ := hi
  have h40 : (c == 40) = false := BEq.comm.trans (ne_of_class hc (by decide))
  exact (bind_ok _ (metadataCommon_enc m hn hu _ trivial)).trans
    (bind_err _ (bind_err _ (char_err 40 c t h40)))

theorem metadataUnsolicited_enc (m : List Bool) {name ename : Bytes} (hn : EncAString name ename)
    (hu : validUtf8 name = true) (first : Bytes × Bytes) (others : List (Bytes × Bytes))
    (hall : ∀ x ∈ first :: others, EncEntry x.2 x.1) :
    Parses metadataUnsolicited
      (spell (b!"METADATA ") m ++ (ename ++ b!" ") ++ (first.1 ++ (others.map fun x => b!" " ++ x.1).flatten))
      (.mailboxData (.metadataUnsolicited (canonMailbox name) (first.2 :: others.map (·.2))))
      (EndOfItems 32 (oneOf [32, 13, 10])) :=
  have entries := Parses.sepList1_const (b!" ") (by simp) (Starts notAstringChar)
    (EndOfItems 32 (oneOf [32, 13, 10])) first others (tag_ok _) (fun y hy => entry_enc (hall y hy))
    (fun r => .cons (by decide) r) (fun _ hr => (hr.starts (by decide)).of_oneOf (by decide))
    fun _ hr => hr.stop fun _ ht => entry_first.err_oneOf ht (by decide)
  .seq (metadataCommon_enc m hn hu) (entries.sepList0_of_sepList1.last)

end RT
