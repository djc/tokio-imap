/-
  Round-trip, top level: untagged responses (`"* " payload *SP CRLF`), the relation "`e` is a wire
  encoding of the response `r`" for every production of the response grammar, and the theorem that
  `parseResponse` inverts it.
-/
import ImapVerif.Proofs.RT.Fetch
import ImapVerif.Proofs.RT.Codes
import ImapVerif.Proofs.RT.Mailbox
import ImapVerif.Proofs.RT.Ext

open Bytes Parser Grammar

namespace RT

theorem spaces_many0 (k : Nat) :
    Parses (many0 (tag (b!" "))) (List.replicate k 32) (List.replicate k ()) (Starts (· != 32)) := by
  have key := Parses.many0 (p := tag (b!" ")) Any (Starts (· != 32)) (List.replicate k ([32], ()))
    (fun x hx => by rw [List.eq_of_mem_replicate hx]; exact tag_ok _)
    (fun _ _ _ => trivial) (fun _ _ => trivial) (fun _ hr => tag_err_class rfl hr)
  simpa [many0_eq, List.map_replicate, List.flatten_replicate_singleton] using key

/-- **untagged response**: `"* "`, the payload, any number of trailing spaces, CRLF; the payload's parser
    has to tolerate `*SP CRLF` after it -/
theorem parseResponse_untagged {r : Response} {e : Bytes} (sp : Nat) {F : Bytes → Prop}
    (h : Parses responseDataAlt e r F) (hF : ∀ rest, F (List.replicate sp 32 ++ (b!"\r\n" ++ rest))) (rest : Bytes) :
    parseResponse (b!"* " ++ (e ++ (List.replicate sp 32 ++ b!"\r\n")) ++ rest) = .ok r rest := by
  have hd : Parses responseData (b!"* " ++ (e ++ (List.replicate sp 32 ++ b!"\r\n"))) r Any :=
    .seq (tag_ok _) <| .bind h
      (.bindS (spaces_many0 sp) (.cons (by decide) _) ((tag_ok _).last))
      fun rest _ => by rw [List.append_assoc]; exact hF rest
  exact (Parses.altR (Parses.altL hd) fun _ _ => (First.bind (First.tag (b!"+"))).err_byte (by decide) _) rest trivial

theorem parseResponse_kw {u : Bytes} {hs : List Tok} {p : Parser Response}
    (hk : responseDataRows[kwRow responseDataRows u]? = some (hs, p)) {m : List Bool} {tail : Bytes} {v : Response} {F : Bytes → Prop}
    (hp : Parses p (spell u m ++ tail) v F) (sp : Nat) (hF : ∀ rest, F (List.replicate sp 32 ++ (b!"\r\n" ++ rest)))
    (rest : Bytes) :
    parseResponse (b!"* " ++ ((spell u m ++ tail) ++ (List.replicate sp 32 ++ b!"\r\n")) ++ rest) = .ok v rest :=
  parseResponse_untagged sp (responseDataAlt_chain.parses_kw hk hp) hF rest

/-- a payload that begins with a numeral: the status and keyword rows cannot begin with a digit; the
    numeral rows before row `k` reject it for a reason of their own -/
theorem parseResponse_num (k : Nat) {hs : List Tok} {p : Parser Response} (hk : responseDataRows[k]? = some (hs, p))
    {n : Nat} {en tail : Bytes} (hen : EncNumber n en) {v : Response}
    (hrej : ∀ rest, ∀ row ∈ (responseDataRows.take k).filter (fun row => !row.1.all Tok.missDigit),
      row.2 (en ++ tail ++ rest) = .err)
    (hp : Parses p (en ++ tail) v Any) (sp : Nat) (rest : Bytes) :
    parseResponse (b!"* " ++ ((en ++ tail) ++ (List.replicate sp 32 ++ b!"\r\n")) ++ rest) = .ok v rest :=
  parseResponse_untagged sp
    (responseDataAlt_chain.parses_digit k hk ((encNumber_head hen).append _) (fun rest _ => hrej rest) hp)
    (fun _ => trivial) rest

/-- an untagged status response, for any reading of what follows the status keyword -/
theorem parseResponse_status (s : Status) (m : List Bool) {v : Option ResponseCode × Option Bytes} {e : Bytes}
    (h : Parses trailingRespText e v (Starts notTextChar)) (rest : Bytes) :
    parseResponse (b!"* " ++ ((spell (statusKw s) m ++ e) ++ b!"\r\n") ++ rest) = .ok (.data s v.1 v.2) rest := by
  -- the status row is the first: whatever the keyword, no row stands before it
  have := parseResponse_untagged 0 (responseDataAlt_chain.parses_at 0 rfl (fun _ _ _ hrow => nomatch hrow)
    (respCond_enc s m h)) (fun r => .cons (by decide) _) rest
  simpa using this

theorem mailboxData_err_num {n : Nat} {e : Bytes} (u : Bytes) (m : List Bool) (r : Bytes)
    (hn : n < 2 ^ 32) (h : EncNumber n e)
    (h1 : mismatch (b!" EXISTS") (32 :: u) = true) (h2 : mismatch (b!" RECENT") (32 :: u) = true) :
    mailboxData (e ++ (spell (32 :: u) m ++ r)) = .err :=
  mailboxData_chain.err_digit ((encNumber_head h).append _)
    (List.forall_mem_cons.2
      ⟨numKw_err _ _ u m r hn h h1, List.forall_mem_singleton.2 (numKw_err _ _ u m r hn h h2)⟩)

/-- `EncResponse r e`: the complete line(s) `e` is one of the spellings of `r` that an RFC 3501
    server may send (keyword case, string forms, zero padding, tolerated deviations are all
    parameters of the constructors underneath) -/
inductive EncResponse : Response → Bytes → Prop
  | fetch (r : Response) (e : Bytes) (k : Nat) : EncFetch r e →
      EncResponse r (b!"* " ++ (e ++ (List.replicate k 32 ++ b!"\r\n")))
  /-- `* n EXISTS`, `* n RECENT`, `* n EXPUNGE` -/
  | numeric (r : Response) (e : Bytes) (k : Nat) : EncNumeric r e →
      EncResponse r (b!"* " ++ (e ++ (List.replicate k 32 ++ b!"\r\n")))
  | flags (m : List Bool) (vs : List Bytes) (e : Bytes) (k : Nat) : EncList EncFlagPerm vs e →
      EncResponse (.mailboxData (.flags vs))
        (b!"* " ++ ((spell (b!"FLAGS ") m ++ e) ++ (List.replicate k 32 ++ b!"\r\n")))
  /-- `* SEARCH n n ...`: with the tolerated trailing space any number of further spaces may follow -/
  | search (v : List Nat) (sp : Bool) (e : Bytes) (k : Nat) : EncNumList (b!"SEARCH") v sp e → (sp = false → k = 0) →
      EncResponse (.mailboxData (.search v)) (b!"* " ++ (e ++ (List.replicate k 32 ++ b!"\r\n")))
  | sort (v : List Nat) (sp : Bool) (e : Bytes) (k : Nat) : EncNumList (b!"SORT") v sp e → (sp = false → k = 0) →
      EncResponse (.mailboxData (.sort v)) (b!"* " ++ (e ++ (List.replicate k 32 ++ b!"\r\n")))
  /-- `* LIST (attrs) delim name` and `* LSUB ...` (both are `MailboxDatum.list`) -/
  | list (lsub : Bool) (m : List Bool) (attrs : List NameAttribute) (d : Option Bytes) (name e : Bytes) (k : Nat) :
      EncMailboxList attrs d name e →
      EncResponse (.mailboxData (.list attrs d name))
        (b!"* " ++ ((spell (if lsub then b!"LSUB " else b!"LIST ") m ++ e) ++ (List.replicate k 32 ++ b!"\r\n")))
  | status (m : List Bool) (name ename : Bytes) (items : List StatusAttribute) (ei : Bytes) (k : Nat) :
      EncAString name ename → validUtf8 name = true → EncList EncStatusAtt items ei →
      EncResponse (.mailboxData (.status (canonMailbox name) items))
        (b!"* " ++ ((spell (b!"STATUS ") m ++ (ename ++ (b!" " ++ ei))) ++ (List.replicate k 32 ++ b!"\r\n")))
  | capabilities (v : List Capability) (e : Bytes) (k : Nat) : EncCaps v e →
      EncResponse (.capabilities v) (b!"* " ++ (e ++ (List.replicate k 32 ++ b!"\r\n")))
  | gmailLabels (m : List Bool) (vs : List Bytes) (e : Bytes) (k : Nat) : EncList EncLabel vs e →
      EncResponse (.mailboxData (.gmailLabels vs))
        (b!"* " ++ ((spell (b!"X-GM-LABELS ") m ++ e) ++ (List.replicate k 32 ++ b!"\r\n")))
  | gmailMsgId (m : List Bool) (n : Nat) (e : Bytes) (k : Nat) : n < 2 ^ 64 → EncNumber n e →
      EncResponse (.mailboxData (.gmailMsgId n))
        (b!"* " ++ ((spell (b!"X-GM-MSGID ") m ++ e) ++ (List.replicate k 32 ++ b!"\r\n")))
  /-- `* ENABLED atom ...` (reported as capabilities) -/
  | enabled (m : List Bool) (items : List (Bytes × Bytes)) (k : Nat) :
      (∀ x ∈ items, x.1 ≠ [] ∧ (∀ c ∈ x.1, isAtomChar c = true) ∧ validUtf8 x.1 = true ∧ x.2 = x.1) →
      EncResponse (.capabilities (items.map fun x => Capability.atom x.2))
        (b!"* " ++ ((spell (b!"ENABLED") m ++ (items.map fun x => b!" " ++ x.1).flatten) ++
          (List.replicate k 32 ++ b!"\r\n")))
  /-- `* VANISHED [(EARLIER)] uid-set` -/
  | vanished (m : List Bool) (earlier : Option (Bytes × List Bool)) (w1 : Bytes) (uids : List (Nat × Nat))
      (eu : Bytes) (k : Nat) :
      (∀ x, earlier = some x → IsSpaces x.1) → IsSpaces w1 → EncSeqSet uids eu →
      EncResponse (.vanished earlier.isSome uids)
        (b!"* " ++ ((spell (b!"VANISHED") m ++ (earlierEnc earlier ++ (w1 ++ eu))) ++
          (List.replicate k 32 ++ b!"\r\n")))
  | quota (m : List Bool) (w1 w2 root eroot : Bytes) (res : List QuotaResource) (el : Bytes) (k : Nat) :
      IsSpaces w1 → IsSpaces w2 → EncAString root eroot → validUtf8 root = true → EncQuotaList res el →
      EncResponse (.quota { rootName := root, resources := res })
        (b!"* " ++ ((spell (b!"QUOTA") m ++ (w1 ++ (eroot ++ (w2 ++ el)))) ++ (List.replicate k 32 ++ b!"\r\n")))
  | quotaRoot (m : List Bool) (w1 name ename : Bytes) (items : List (Bytes × Bytes × Bytes)) (k : Nat) :
      IsSpaces w1 → EncAString name ename → validUtf8 name = true →
      (∀ x ∈ items, IsSpaces x.1 ∧ EncAString x.2.2 x.2.1 ∧ validUtf8 x.2.2 = true) →
      EncResponse (.quotaRoot { mailboxName := name, quotaRootNames := items.map (·.2.2) })
        (b!"* " ++ ((spell (b!"QUOTAROOT") m ++ (w1 ++ (ename ++ (items.map fun x => x.1 ++ x.2.1).flatten))) ++
          (List.replicate k 32 ++ b!"\r\n")))
  | id (m : List Bool) (w : Bytes) (v : Option (List (Bytes × Bytes))) (e : Bytes) (k : Nat) :
      IsSpaces w → EncIdParams v e →
      EncResponse (.id v) (b!"* " ++ ((spell (b!"ID") m ++ (w ++ e)) ++ (List.replicate k 32 ++ b!"\r\n")))
  | acl (m : List Bool) (w1 name ename : Bytes) (ne : Bool) (entries : List AclEntry) (el : Bytes) (k : Nat) :
      IsSpaces w1 → EncAString name ename → validUtf8 name = true → EncAclList ne entries el → (ne = false → k = 0) →
      EncResponse (.acl { mailbox := canonMailbox name, acls := entries })
        (b!"* " ++ ((spell (b!"ACL") m ++ (w1 ++ (ename ++ el))) ++ (List.replicate k 32 ++ b!"\r\n")))
  | listRights (m : List Bool) (w1 w2 w3 name ename ident eident : Bytes) (req : List AclRight) (er : Bytes)
      (ne : Bool) (opt : List AclRight) (eo : Bytes) (k : Nat) :
      IsSpaces w1 → IsSpaces w2 → IsSpaces w3 → EncAString name ename → validUtf8 name = true →
      EncAString ident eident → validUtf8 ident = true → EncRights req er → EncOptRights ne opt eo →
      (ne = false → k = 0) →
      EncResponse (.listRights ⟨canonMailbox name, ident, req, opt⟩)
        (b!"* " ++ ((spell (b!"LISTRIGHTS") m ++ (w1 ++ (ename ++ (w2 ++ (eident ++ (w3 ++ (er ++ eo))))))) ++
          (List.replicate k 32 ++ b!"\r\n")))
  | myRights (m : List Bool) (w1 w2 name ename : Bytes) (rights : List AclRight) (er : Bytes) (k : Nat) :
      IsSpaces w1 → IsSpaces w2 → EncAString name ename → validUtf8 name = true → EncRights rights er →
      EncResponse (.myRights { mailbox := canonMailbox name, rights := rights })
        (b!"* " ++ ((spell (b!"MYRIGHTS") m ++ (w1 ++ (ename ++ (w2 ++ er)))) ++ (List.replicate k 32 ++ b!"\r\n")))
  /-- `* METADATA mailbox (entry value ...)` -/
  | metadataSolicited (m : List Bool) (name ename : Bytes) (first : Bytes × Metadata) (others : List (Bytes × Metadata))
      (k : Nat) : EncAString name ename → validUtf8 name = true → (∀ x ∈ first :: others, EncKeyval x.2 x.1) →
      EncResponse (.mailboxData (.metadataSolicited (canonMailbox name) (first.2 :: others.map (·.2))))
        (b!"* " ++ ((spell (b!"METADATA ") m ++ (ename ++ b!" ") ++
          ([40] ++ (first.1 ++ (others.map fun x => [32] ++ x.1).flatten) ++ [41])) ++ (List.replicate k 32 ++ b!"\r\n")))
  /-- `* METADATA mailbox entry entry ...` -/
  | metadataUnsolicited (m : List Bool) (name ename : Bytes) (first : Bytes × Bytes) (others : List (Bytes × Bytes))
      (k : Nat) : EncAString name ename → validUtf8 name = true → (∀ x ∈ first :: others, EncEntry x.2 x.1) →
      EncResponse (.mailboxData (.metadataUnsolicited (canonMailbox name) (first.2 :: others.map (·.2))))
        (b!"* " ++ ((spell (b!"METADATA ") m ++ (ename ++ b!" ") ++
          (first.1 ++ (others.map fun x => b!" " ++ x.1).flatten)) ++ (List.replicate k 32 ++ b!"\r\n")))
  /-- untagged status response `* OK [code] text` -/
  | data (s : Status) (m : List Bool) (v : Option ResponseCode × Option Bytes) (e : Bytes) : EncTrailing v e →
      EncResponse (.data s v.1 v.2) (b!"* " ++ ((spell (statusKw s) m ++ e) ++ b!"\r\n"))
  /-- tagged completion `A0001 OK [code] text` -/
  | done (t : Bytes) (s : Status) (m : List Bool) (v : Option ResponseCode × Option Bytes) (e : Bytes) :
      IsTag t → EncTrailing v e →
      EncResponse (.done t s v.1 v.2) (t ++ (b!" " ++ (spell (statusKw s) m ++ (e ++ b!"\r\n"))))
  /-- continuation request `+ text` / `+text` -/
  | continue_ (sp : Bool) (v : Option ResponseCode × Option Bytes) (e : Bytes) : EncRespText v e →
      (sp = false → ∀ x t, e = x :: t → ((32 : UInt8) == x) = false) →
      EncResponse (.continue_ v.1 v.2) (b!"+" ++ ((if sp then b!" " else []) ++ (e ++ b!"\r\n")))

/-- **the parser inverts the printer relation**: exactly the value, exactly the bytes -/
theorem parseResponse_enc (r : Response) (e : Bytes) (h : EncResponse r e) (rest : Bytes) :
    parseResponse (e ++ rest) = .ok r rest := by
  cases h with
  | fetch r e k hf =>
    have hp := messageDataFetch_enc hf Any
    cases hf with
    | mk n en m vs ea hn hen hea =>
      -- `mailbox_data` and EXPUNGE read the numeral and reject the keyword
      refine parseResponse_num 3 rfl hen (fun rest => ?_) hp k rest
      simp only [List.append_assoc]
      exact List.forall_mem_cons.2 ⟨map_err _ (mailboxData_err_num _ m _ hn hen (by decide) (by decide)),
        List.forall_mem_singleton.2 (map_err _ (numKw_err _ _ _ m _ hn hen (by decide)))⟩
  | numeric r e k hn =>
    cases hn with
    | exists_ n e m hn he =>
      exact parseResponse_num 1 rfl he (fun _ _ hrow => nomatch hrow) (.map (mailboxData_exists hn he m)) k rest
    | recent n e m hn he =>
      exact parseResponse_num 1 rfl he (fun _ _ hrow => nomatch hrow) (.map (mailboxData_recent hn he m)) k rest
    | expunge n e m hn he =>
      refine parseResponse_num 2 rfl he (fun rest => ?_) (.map (messageDataExpunge_enc hn he m)) k rest
      rw [List.append_assoc]
      exact List.forall_mem_singleton.2 (map_err _ (mailboxData_err_num _ m _ hn he (by decide) (by decide)))
  | flags m vs e k he =>
    exact parseResponse_kw rfl (.map (mailboxData_flags he m)) k (fun _ => trivial) rest
  | search v sp e k he hk =>
    have hp := mailboxData_search he
    cases he with
    | mk m items sp hall => exact parseResponse_kw rfl (.map hp) k (afterNumList_line sp k hk) rest
  | sort v sp e k he hk =>
    have hp := mailboxData_sort he
    cases he with
    | mk m items sp hall => exact parseResponse_kw rfl (.map hp) k (afterNumList_line sp k hk) rest
  | list lsub m attrs d name e k he =>
    have hp := mailboxData_list lsub m he
    cases lsub <;> exact parseResponse_kw rfl (.map hp) k (lineEnd_starts (by decide) k) rest
  | status m name ename items ei k hn hu hi =>
    exact parseResponse_kw rfl (.map (mailboxData_status m hn hu hi)) k
      (fun _ => trivial) rest
  | capabilities v e k he =>
    have hp := capabilityData_enc he
    cases he with
    | mk m items hall hc => exact parseResponse_kw rfl (.map hp) k (endOfItems_line (by decide) k) rest
  | gmailLabels m vs e k he =>
    exact parseResponse_kw rfl (.map (mailboxData_gmailLabels m he)) k (fun _ => trivial) rest
  | gmailMsgId m n e k hn he =>
    exact parseResponse_kw rfl (.map (mailboxData_gmailMsgId m hn he)) k
      (lineEnd_starts (by decide) k) rest
  | enabled m items k hall =>
    exact parseResponse_kw rfl (enabled_enc m items hall) k (endOfItems_line (by decide) k) rest
  | vanished m earlier w1 uids eu k hw0 hw1 hu =>
    exact parseResponse_kw rfl (vanished_enc m earlier hw0 hw1 hu) k
      (lineEnd_starts (by decide) k) rest
  | quota m w1 w2 root eroot res el k hw1 hw2 hr hu hl =>
    exact parseResponse_kw rfl (quota_enc m hw1 hw2 hr hu hl) k
      (fun _ => trivial) rest
  | quotaRoot m w1 name ename items k hw1 hn hu hitems =>
    exact parseResponse_kw rfl (quotaRoot_enc m hw1 hn hu items hitems) k
      (endOfWords_line k) rest
  | id m w v e k hw he =>
    exact parseResponse_kw rfl (respId_enc m hw he) k (fun _ => trivial) rest
  | acl m w1 name ename ne entries el k hw1 hn hu hl hk =>
    exact parseResponse_kw rfl (acl_enc m hw1 hn hu hl) k
      (afterWords_line ne k hk) rest
  | listRights m w1 w2 w3 name ename ident eident required er ne optional eo k hw1 hw2 hw3 hn hu hi hui hr ho hk =>
    exact parseResponse_kw rfl
      (listRights_enc m hw1 hw2 hw3 hn hu hi hui hr ho) k
      (afterWords_line ne k hk) rest
  | myRights m w1 w2 name ename rights er k hw1 hw2 hn hu hr =>
    exact parseResponse_kw rfl (myRights_enc m hw1 hw2 hn hu hr) k
      (lineEnd_starts (by decide) k) rest
  | metadataSolicited m name ename first others k hn hu hall =>
    have hp := metadataSolicited_enc m hn hu first others hall
    rw [List.append_assoc] at hp
    have := parseResponse_kw rfl hp k (fun _ => trivial) rest
    simpa only [List.append_assoc] using this
  | metadataUnsolicited m name ename first others k hn hu hall =>
    have hp := metadataUnsolicited_enc m hn hu first others hall
    rw [List.append_assoc] at hp
    -- the solicited form, which shares the keyword, finds no parenthesis after the mailbox
    have := parseResponse_untagged k (responseDataAlt_chain.parses_kw_or 7 rfl (fun rest' _ => ?_) hp)
      (endOfItems_line (by decide) k) rest
    · simpa only [List.append_assoc] using this
    have := metadataSolicited_err_entries m hn hu
      ((encAString_head (hall first (by simp)).1).append ((others.map fun x => b!" " ++ x.1).flatten ++ rest'))
    exact List.forall_mem_singleton.2 (by simpa only [List.append_assoc] using this)
  | data s m v e he => exact parseResponse_status s m (trailingRespText_enc he) rest
  | done t s m v e ht he =>
    obtain ⟨c, cs, rfl, hc⟩ := Starts.of_all ht.1 ht.2
    refine (Parses.altR (Parses.altR (responseTagged_enc ht s m he) fun _ _ => ?_) fun _ _ => ?_)
      rest trivial
    · exact bind_err _ (tag_err_first (ne_of_class hc (by decide)))
    · exact bind_err _ (tag_err_first (ne_of_class hc (by decide)))
  | continue_ sp v e he hsp => exact Parses.altL (continueReq_enc sp he hsp) rest trivial

end RT
