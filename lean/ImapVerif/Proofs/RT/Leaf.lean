/-
  Round trip for the productions of core.rs and the shapes every response is built from: numerals, NIL,
  quoted strings, literals, string / nstring / astring, atom, mailbox, text, white space, parenthesised
  lists, lists of `SP item`, flags, `keyword SP number`, sets of numbers and ranges.  A production with
  spelling freedom has a printer relation `Enc*`; each has its `Parses` lemma and, where a caller needs
  them, the class of bytes an encoding begins with and the FIRST set of its parser.
-/
import ImapVerif.Proofs.RT.First
import ImapVerif.Proofs.Num
import ImapVerif.Proofs.Utf8

open Bytes Parser Grammar

namespace RT

def notDigit (c : UInt8) : Bool := !isDigit c
def notSpace (c : UInt8) : Bool := !isSpace c
def notAstringChar (c : UInt8) : Bool := !isAstringChar c
def notAtomChar (c : UInt8) : Bool := !isAtomChar c
def notTextChar (c : UInt8) : Bool := !isTextChar c

def spaceOrClose : UInt8 → Bool := oneOf [32, 41]
def closeParen : UInt8 → Bool := oneOf [41]
def closeBracket : UInt8 → Bool := oneOf [93]
def crlfStart : UInt8 → Bool := oneOf [13, 10]

theorem notSpace_of_class {P : UInt8 → Bool} (h32 : P 32 = false) (h9 : P 9 = false) (c : UInt8) (hc : P c = true) :
    notSpace c = true := by
  have a := ne_of_class hc h32
  have b := ne_of_class hc h9
  rw [Bool.beq_comm] at a b
  simp [notSpace, isSpace, a, b]

/-! ### number -/

/-- a numeral: canonical digits with any number of leading zeros -/
inductive EncNumber (n : Nat) : Bytes → Prop
  | mk (z : Nat) : EncNumber n (List.replicate z 48 ++ decDigits n)

theorem number_enc (bound : Nat) {n : Nat} {e : Bytes} (hn : n < bound) (h : EncNumber n e) :
    Parses (numberB bound) e n (Starts notDigit) := by
  cases h with
  | mk z =>
    intro rest ⟨c, t, hr, hc⟩
    subst hr
    exact Num.numberB_complete bound n z hn c t (by simpa [notDigit] using hc)

theorem encNumber_head {n : Nat} {e : Bytes} (h : EncNumber n e) : Starts isDigit e := by
  cases h with
  | mk z =>
    cases z with
    | zero => simpa using Starts.of_all (Num.decDigits_ne_nil n) (Num.decDigits_all n)
    | succ z => exact .cons (by decide) _

/-! ### NIL -/

theorem nil_enc (m : List Bool) : Parses nil (spell (b!"NIL") m) () Any := tagNoCase_spell _ m

theorem nil_first : First [.word (b!"NIL")] nil := .tagNoCase _

theorem nil_head (m : List Bool) : Starts (oneOf [78, 110]) (spell (b!"NIL") m) := spell_head 78 _ m

/-! ### quoted -/

/-- the bytes a quoted string can carry without escapes -/
def Quotable (s : Bytes) : Prop := ∀ c ∈ s, isQuotedNormal c = true

theorem escapedGo_plain (s : Bytes) (acc rest : Bytes) (hs : Quotable s) :
    escapedGo isQuotedNormal acc (s ++ 34 :: rest) = .ok (acc.reverse ++ s) (34 :: rest) := by
  induction s generalizing acc with
  | nil => simp [escapedGo_cons, isQuotedNormal, isQuotedSpecials]
  | cons c cs ih =>
    have hc := hs c (by simp)
    have := ih (c :: acc) (fun x hx => hs x (by simp [hx]))
    simp only [List.cons_append, escapedGo_cons, hc, if_true]
    rw [this]; simp

theorem quoted_enc {s : Bytes} (hs : Quotable s) : Parses quoted ([34] ++ s ++ [34]) s Any := by
  have hesc : Parses (escaped isQuotedNormal) s s (Starts (· == 34)) := by
    intro rest ⟨c, t, hr, hc⟩
    rw [hr, eq_of_beq hc]
    simpa [escaped] using escapedGo_plain s [] t hs
  rw [List.append_assoc]
  exact .seq (char_ok 34) (.bindS hesc (.cons rfl []) ((char_ok 34).last))

theorem quoted_first : First [.cls (· == 34)] quoted := .bind (.char 34)

/-! ### literal -/

def LiteralOk (s : Bytes) : Prop := (∀ c ∈ s, c ≠ 0) ∧ s.length < 2 ^ 32

/-- `{n}CRLF` + n bytes, the length with any number of leading zeros -/
inductive EncLiteral (s : Bytes) : Bytes → Prop
  | mk (z : Nat) : EncLiteral s (b!"{" ++ (List.replicate z 48 ++ decDigits s.length) ++ b!"}\r\n" ++ s)

theorem literal_eval (s : Bytes) (z : Nat) (hl : s.length < 2 ^ 32) (rest : Bytes) :
    literal (b!"{" ++ (List.replicate z 48 ++ decDigits s.length) ++ b!"}\r\n" ++ s ++ rest)
      = if s.all isChar8 then .ok s rest else .err := by
  have hnum : number _ = _ :=
    number_enc (2 ^ 32) hl (.mk z) (b!"}\r\n" ++ (s ++ rest)) (.cons (by decide) _)
  simp only [List.append_assoc] at hnum ⊢
  refine (bind_ok _ (tag_ok (b!"{") _ trivial)).trans <| (bind_ok _ hnum).trans <|
    (bind_ok _ (tag_ok (b!"}") (b!"\r\n" ++ (s ++ rest)) trivial)).trans <|
    (bind_ok _ (tag_ok (b!"\r\n") (s ++ rest) trivial)).trans <| (bind_ok _ (take_exact s rest)).trans ?_
  split <;> rfl

theorem literal_enc {s e : Bytes} (h : EncLiteral s e) (hs : LiteralOk s) : Parses literal e s Any := by
  cases h with
  | mk z =>
    intro rest _
    rw [literal_eval s z hs.2 rest, if_pos]
    simpa only [List.all_eq_true, isChar8, bne_iff_ne] using hs.1

theorem literal_first : First [.word (b!"{")] literal := .bind (.tag _)

/-! ### string / nstring / astring -/

/-- string = quoted / literal -/
inductive EncString (s : Bytes) : Bytes → Prop
  | quoted : Quotable s → EncString s ([34] ++ s ++ [34])
  | literal (e : Bytes) : EncLiteral s e → LiteralOk s → EncString s e

theorem encString_head {s e : Bytes} (h : EncString s e) : Starts (oneOf [34, 123]) e := by
  cases h with
  | quoted _ => exact .cons (by decide) _
  | literal e hl _ => cases hl with | mk z => exact .cons (by decide) _

theorem string_first : First [.cls (· == 34), .word (b!"{")] string := .alt quoted_first literal_first

theorem string_enc {s e : Bytes} (h : EncString s e) : Parses string e s Any := by
  cases h with
  | quoted hq => exact Parses.altL (quoted_enc hq)
  | literal e hl hok =>
    refine Parses.altR (literal_enc hl hok) fun rest _ => ?_
    cases hl with
    | mk z => exact quoted_first.err_byte (by decide) _

theorem stringUtf8_enc {s e : Bytes} (h : EncString s e) (hu : validUtf8 s = true) :
    Parses stringUtf8 e s Any :=
  Parses.mapRes (string_enc h) (if_pos hu)

/-- nstring = string / nil -/
inductive EncNString : Option Bytes → Bytes → Prop
  | nil (m : List Bool) : EncNString none (spell (b!"NIL") m)
  | some (s e : Bytes) : EncString s e → EncNString (some s) e

theorem encNString_head {v : Option Bytes} {e : Bytes} (h : EncNString v e) : Starts (oneOf [34, 123, 78, 110]) e := by
  cases h with
  | nil m => exact (nil_head m).of_oneOf (by decide)
  | some s e hs => exact (encString_head hs).of_oneOf (by decide)

theorem nstring_enc (v : Option Bytes) (e : Bytes) (h : EncNString v e) : Parses nstring e v Any := by
  cases h with
  | nil m => exact Parses.altL (Parses.map (nil_enc m))
  | some s e hs =>
    refine Parses.altR (Parses.map (string_enc hs)) fun rest _ => ?_
    exact (First.map nil_first).err_oneOf ((encString_head hs).append rest) (by decide)

theorem nstringUtf8_enc {v : Option Bytes} {e : Bytes} (h : EncNString v e)
    (hu : ∀ s, v = some s → validUtf8 s = true) : Parses nstringUtf8 e v Any := by
  cases h with
  | nil m => exact Parses.altL (Parses.map (nil_enc m))
  | some s e hs =>
    refine Parses.altR (Parses.map (stringUtf8_enc hs (hu s rfl))) fun rest _ => ?_
    exact (First.map nil_first).err_oneOf ((encString_head hs).append rest) (by decide)

theorem nstringUtf8_first : First [.word (b!"NIL"), .cls (· == 34), .word (b!"{")] nstringUtf8 :=
  .alt (.map nil_first) (.map (.mapRes string_first))

/-- astring = 1*ASTRING-CHAR / string -/
inductive EncAString (s : Bytes) : Bytes → Prop
  | atom : s ≠ [] → (∀ c ∈ s, isAstringChar c = true) → EncAString s s
  | str (e : Bytes) : EncString s e → EncAString s e

def astringHead (c : UInt8) : Bool := isAstringChar c || oneOf [34, 123] c

theorem encAString_head {s e : Bytes} (h : EncAString s e) : Starts astringHead e := by
  cases h with
  | atom hne hall => exact (Starts.of_all hne hall).mono fun c hc => by simp [astringHead, hc]
  | str e hs => exact (encString_head hs).mono fun c hc => by simp [astringHead, hc]

theorem astring_first : First [.cls isAstringChar, .cls (· == 34), .word (b!"{")] astring :=
  .alt (.takeWhile1 _) string_first

theorem astring_enc {s e : Bytes} (h : EncAString s e) : Parses astring e s (Starts notAstringChar) := by
  cases h with
  | atom hne hall => exact Parses.altL (takeWhile1_ok isAstringChar s hne hall)
  | str e hs =>
    refine Parses.altR (string_enc hs).any fun rest _ => ?_
    exact (First.takeWhile1 _).err_oneOf ((encString_head hs).append rest) (by decide)

theorem astringUtf8_enc {s e : Bytes} (h : EncAString s e) (hu : validUtf8 s = true) :
    Parses astringUtf8 e s (Starts notAstringChar) :=
  Parses.mapRes (astring_enc h) (if_pos hu)

theorem astringUtf8_first : First [.cls isAstringChar, .cls (· == 34), .word (b!"{")] astringUtf8 :=
  .mapRes astring_first

theorem astringHead_notSpace : ∀ c, astringHead c = true → notSpace c = true :=
  notSpace_of_class (by decide) (by decide)

theorem encAString_notSpace {s e : Bytes} (h : EncAString s e) : Starts notSpace e :=
  (encAString_head h).mono astringHead_notSpace

/-! ### atom, mailbox, text -/

def canonMailbox (s : Bytes) : Bytes := if eqIgnoreAsciiCase s (b!"INBOX") then b!"INBOX" else s

theorem mailbox_enc {s e : Bytes} (h : EncAString s e) (hu : validUtf8 s = true) :
    Parses mailbox e (canonMailbox s) (Starts notAstringChar) :=
  Parses.map (astringUtf8_enc h hu)

/-- ATOM-CHARs are ASCII, so the run is valid UTF-8 -/
theorem atom_enc (s : Bytes) (hne : s ≠ []) (hall : ∀ c ∈ s, isAtomChar c = true) :
    Parses atom s s (Starts notAtomChar) :=
  Parses.mapRes (takeWhile1_ok isAtomChar s hne hall)
    (if_pos (Utf8.ascii_utf8 s fun c hc => char_ascii c (Bool.and_eq_true_iff.1 (hall c hc)).1))

theorem text_enc (s : Bytes) (hall : ∀ c ∈ s, isTextChar c = true) :
    Parses text s s (Starts notTextChar) :=
  Parses.mapRes (takeWhile_ok isTextChar s hall) (if_pos (Utf8.ascii_utf8 s fun c hc => textChar_ascii c (hall c hc)))

def IsSpaces (ws : Bytes) : Prop := ws ≠ [] ∧ ∀ c ∈ ws, isSpace c = true

theorem space1_enc {ws : Bytes} (h : IsSpaces ws) : Parses space1 ws () (Starts notSpace) := by
  rw [space1_eq]
  exact Parses.map (takeWhile1_ok isSpace ws h.1 h.2)

theorem space0_enc (ws : Bytes) (h : ∀ c ∈ ws, isSpace c = true) : Parses space0 ws () (Starts notSpace) := by
  rw [space0_eq]
  exact Parses.map (takeWhile_ok isSpace ws h)

theorem isSpaces_head {ws : Bytes} (h : IsSpaces ws) : Starts (oneOf [32, 9]) ws :=
  (Starts.of_all h.1 h.2).mono fun c hc => by simpa [isSpace, oneOf] using hc

theorem isSpaces_notAstring {ws : Bytes} (h : IsSpaces ws) : Starts notAstringChar ws :=
  (isSpaces_head h).of_oneOf (by decide)

theorem digit_notSpace : ∀ c, isDigit c = true → notSpace c = true := notSpace_of_class (by decide) (by decide)

theorem Parses.sp {f : Unit → Parser β} {F : Bytes → Prop} (hw : IsSpaces w) (he : Starts notSpace e)
    (hf : Parses (f ()) e v F) : Parses (space1 >>= f) (w ++ e) v F :=
  .bindS (space1_enc hw) he hf

theorem Parses.bindSp {p : Parser α} {f : α → Parser β} {C : UInt8 → Bool} {F : Bytes → Prop}
    (hp : Parses p e1 v1 (Starts C)) (hC : [32, 9].all C = true) (hw : IsSpaces w) (he : Starts notSpace e2)
    (hf : Parses (f v1) e2 v2 F) : Parses (p >>= fun x => space1 >>= fun _ => f x) (e1 ++ (w ++ e2)) v2 F :=
  .bindS hp (((isSpaces_head hw).of_oneOf hC).append e2) (.sp hw he hf)

/-- the end of an untagged line, `*SP CRLF`, begins with a space or CR -/
theorem lineEnd_starts {S : UInt8 → Bool} (hS : [32, 13].all S = true) (k : Nat) (rest : Bytes) :
    Starts S (List.replicate k 32 ++ (b!"\r\n" ++ rest)) := by
  simp only [List.all_cons, List.all_nil, Bool.and_true, Bool.and_eq_true] at hS
  cases k with
  | zero => exact .cons hS.2 _
  | succ k => exact .cons hS.1 _

theorem parenDelimited_enc {p : Parser α} {e : Bytes} {v : α} {F : Bytes → Prop}
    (hp : Parses p e v (Starts closeParen)) : Parses (parenDelimited p) ([40] ++ e ++ [41]) v F := by
  unfold parenDelimited
  rw [List.append_assoc]
  exact .seq (char_ok 40) (.bindS hp (.cons (by decide) _) ((char_ok 41).last).any)

/-- a parenthesised, space-separated list whose items are encoded by `R` -/
inductive EncList {α : Type} (R : α → Bytes → Prop) : List α → Bytes → Prop
  | nil : EncList R [] (b!"()")
  | cons (first : Bytes × α) (others : List (Bytes × α)) :
      (∀ x ∈ first :: others, R x.2 x.1) →
      EncList R (first.2 :: others.map (·.2))
        ([40] ++ (first.1 ++ (others.map fun x => [32] ++ x.1).flatten) ++ [41])

theorem spacedItems_enc {α : Type} {p : Parser α} {R : α → Bytes → Prop} {S : UInt8 → Bool}
    (hp : ∀ {v e}, R v e → Parses p e v (Starts S)) (hS : [32, 41].all S = true)
    (first : Bytes × α) (others : List (Bytes × α)) (hall : ∀ x ∈ first :: others, R x.2 x.1) :
    Parses (sepList1 (char 32) p) (first.1 ++ (others.map fun x => [32] ++ x.1).flatten)
      (first.2 :: others.map (·.2)) (Starts closeParen) :=
  Parses.sepList1_const [32] (by simp) (Starts spaceOrClose) (Starts closeParen)
    first others (char_ok 32) (fun y hy => (hp (hall y hy)).followOf hS) (fun r => .cons (by decide) r)
    (fun _ hr => hr.of_oneOf (by decide)) (fun _ hr => .inl ((First.char 32).err_oneOf hr (by decide)))

/-- `parenthesizedNonemptyList p` unfolds to `parenDelimited (sepList1 (char 32) p)`, `parenthesizedList p` to
    the same with `sepList0` -/
theorem parenthesizedNonemptyList_enc {α : Type} {p : Parser α} {R : α → Bytes → Prop} {S : UInt8 → Bool}
    (hp : ∀ {v e}, R v e → Parses p e v (Starts S)) (hS : [32, 41].all S = true)
    (first : Bytes × α) (others : List (Bytes × α)) (hall : ∀ x ∈ first :: others, R x.2 x.1)
    (F : Bytes → Prop) :
    Parses (parenthesizedNonemptyList p)
      ([40] ++ (first.1 ++ (others.map fun x => [32] ++ x.1).flatten) ++ [41])
      (first.2 :: others.map (·.2)) F :=
  parenDelimited_enc (p := sepList1 (char 32) p) (spacedItems_enc hp hS first others hall)

theorem parenthesizedList_enc {α : Type} {p : Parser α} {R : α → Bytes → Prop} {S : UInt8 → Bool} {hs : List Tok}
    (hp : ∀ {v e}, R v e → Parses p e v (Starts S)) (hS : [32, 41].all S = true)
    (hfirst : First hs p) (hclose : hs.all (Tok.missByte 41) = true)
    {vs : List α} {e : Bytes} (h : EncList R vs e) (F : Bytes → Prop) :
    Parses (parenthesizedList p) e vs F := by
  cases h with
  | nil =>
    exact parenDelimited_enc (p := sepList0 (char 32) p) (e := [])
      (Parses.sepList0_nil fun r hr => hfirst.err_oneOf hr (by simpa using hclose))
  | cons first others hall =>
    exact parenDelimited_enc (p := sepList0 (char 32) p) (spacedItems_enc hp hS first others hall).sepList0_of_sepList1

/-! ### flags -/

/-- a flag: `\` followed by atom characters (possibly none: the parser accepts a bare backslash),
    or a keyword of astring characters not starting with a backslash -/
inductive EncFlag : Bytes → Bytes → Prop
  | ext (s : Bytes) : (∀ c ∈ s, isAtomChar c = true) → validUtf8 (92 :: s) = true → EncFlag (92 :: s) (92 :: s)
  | kw (s : Bytes) : s ≠ [] → (∀ c ∈ s, isAstringChar c = true) → validUtf8 s = true → EncFlag s s

theorem flagExtension_first : First [.word (b!"\\")] flagExtension := .mapRes (.bind (.tag _))
theorem flag_first : First [.word (b!"\\"), .cls isAstringChar] flag :=
  .alt flagExtension_first (.mapRes (.takeWhile1 _))

theorem flag_enc {v e : Bytes} (h : EncFlag v e) : Parses flag e v (Starts spaceOrClose) := by
  cases h with
  | ext s hall hu =>
    refine .altL (.mapRes (v := 92 :: s) ?_ (if_pos hu))
    exact .seq (e1 := [92]) (tag_ok _) (((takeWhile_ok isAtomChar s hall).followOf (by decide)).last)
  | kw _ hne hall hu =>
    refine .altR (.mapRes ((takeWhile1_ok isAstringChar v hne hall).followOf (by decide)) (if_pos hu))
      fun rest _ => ?_
    obtain ⟨a, as, rfl, ha⟩ := Starts.of_all hne hall
    exact mapRes_err _ (bind_err _ (tag_err_first (ne_of_class ha (by decide))))

/-- flag-perm = flag / `\*` -/
inductive EncFlagPerm : Bytes → Bytes → Prop
  | star : EncFlagPerm (b!"\\*") (b!"\\*")
  | flag (v e : Bytes) : EncFlag v e → EncFlagPerm v e

/-- after the backslash of a flag comes an atom character or the end of the list element, not `*` -/
theorem starTag_err_flag {v e : Bytes} (h : EncFlag v e) {rest : Bytes} (hr : Starts spaceOrClose rest) :
    tag (b!"\\*") (e ++ rest) = .err := by
  have atom42 : isAtomChar 42 = false := by decide
  cases h with
  | ext s hall hu =>
    cases s with
    | nil =>
      obtain ⟨c, t, rfl, hc⟩ := hr
      simp [tag, tagGo, ne_of_class (P := spaceOrClose) hc (b := 42) (by decide)]
    | cons a as => simp [tag, tagGo, ne_of_class (hall a (by simp)) atom42]
  | kw _ hne hall hu =>
    obtain ⟨a, as, rfl, ha⟩ := Starts.of_all hne hall
    exact tag_err_first (ne_of_class ha (by decide))

theorem flagPerm_first : First [.word (b!"\\*"), .word (b!"\\"), .cls isAstringChar] flagPerm :=
  .alt (.mapRes (.map (.tag _))) flag_first

theorem flagPerm_enc {v e : Bytes} (h : EncFlagPerm v e) : Parses flagPerm e v (Starts spaceOrClose) := by
  cases h with
  | star => exact .altL (.mapRes (v := b!"\\*") (.map (tag_ok _).any) (by decide))
  | flag v e hf =>
    refine .altR (flag_enc hf) fun rest hr => ?_
    exact mapRes_err _ (map_err _ (starTag_err_flag hf hr))

theorem flagList_enc {vs : List Bytes} {e : Bytes} (h : EncList EncFlagPerm vs e) (F : Bytes → Prop) :
    Parses flagList e vs F :=
  parenthesizedList_enc flagPerm_enc (by decide) flagPerm_first (by decide) h F

/-- a Gmail label: a flag or a quoted string -/
inductive EncLabel : Bytes → Bytes → Prop
  | flag (v e : Bytes) : EncFlag v e → EncLabel v e
  | quoted (s : Bytes) : Quotable s → validUtf8 s = true → EncLabel s ([34] ++ s ++ [34])

theorem label_first : First [.word (b!"\\"), .cls isAstringChar, .cls (· == 34)] (alt flag quotedUtf8) :=
  .alt flag_first (.mapRes quoted_first)

theorem label_enc {v e : Bytes} (h : EncLabel v e) : Parses (alt flag quotedUtf8) e v (Starts spaceOrClose) := by
  cases h with
  | flag _ hf => exact .altL (flag_enc hf)
  | quoted hq hu =>
    refine .altR (.mapRes (quoted_enc hq).any (if_pos hu)) fun rest _ => ?_
    exact flag_first.err_byte (by decide) _

/-- where a run of `b item` ends, `C` holding the bytes at which an item stops and with which none begins:
    at a byte of `C` other than `b`, or at a `b` that a byte of `C` follows -/
def EndOfItems (b : UInt8) (C : UInt8 → Bool) (r : Bytes) : Prop :=
  Starts (fun c => C c && c != b) r ∨ ∃ t, r = b :: t ∧ Starts C t

theorem EndOfItems.of_starts {b : UInt8} {C : UInt8 → Bool} {bs : List UInt8} {r : Bytes} (h : Starts (oneOf bs) r)
    (hbs : (bs.all fun c => C c && c != b) = true) : EndOfItems b C r :=
  .inl (h.of_oneOf hbs)

theorem EndOfItems.starts {b : UInt8} {C : UInt8 → Bool} {r : Bytes} (h : EndOfItems b C r) (hC : C b = true) :
    Starts C r := by
  rcases h with h | ⟨t, rfl, _⟩
  · exact h.mono fun _ hc => (Bool.and_eq_true_iff.1 hc).1
  · exact .cons hC t

theorem EndOfItems.stop {α : Type} {p : Parser α} {b : UInt8} {C : UInt8 → Bool} {r : Bytes} (h : EndOfItems b C r)
    (hp : ∀ t, Starts C t → p t = .err) : ListEnds (tag [b]) p r := by
  rcases h with h | ⟨t, rfl, ht⟩
  · exact .inl (tag_err_class (by simp) h)
  · exact .inr ⟨t, tag_ok [b] t trivial, Nat.lt_succ_self _, hp t ht⟩

theorem Parses.many0_b {α : Type} {p : Parser α} (b : UInt8) {C : UInt8 → Bool} (hb : C b = true)
    (items : List (Bytes × α)) (hall : ∀ x ∈ items, Parses p x.1 x.2 (Starts C))
    (hstop : ∀ t, Starts C t → p t = .err) :
    Parses (Parser.many0 (do tag [b]; p)) (items.map fun x => [b] ++ x.1).flatten (items.map (·.2))
      (EndOfItems b C) :=
  Parses.many0_pre [b] (Starts C) _ items (tag_ok _) hall (fun r => .cons hb r)
    (fun _ hr => hr.starts hb) fun _ hr => hr.stop hstop

theorem spAtoms_enc {β : Type} {g : Bytes → β} (items : List (Bytes × β))
    (hall : ∀ x ∈ items, Parses (map atom g) x.1 x.2 (Starts notAtomChar)) :
    Parses (many0 (do char 32; map atom g)) (items.map fun x => b!" " ++ x.1).flatten (items.map (·.2))
      (EndOfItems 32 notAtomChar) :=
  Parser.char_eq 32 ▸ .many0_b 32 (by decide) items hall
    fun _ ht => (First.map (.mapRes (.takeWhile1 _))).err_compl ht

theorem endOfItems_line {C : UInt8 → Bool} (hC : [32, 13].all C = true) (k : Nat) (rest : Bytes) :
    EndOfItems 32 C (List.replicate k 32 ++ (b!"\r\n" ++ rest)) := by
  cases k with
  | zero => exact .of_starts (bs := [13]) (.cons (by decide) _) (by simpa using List.all_eq_true.1 hC 13 (by simp))
  | succ k => exact .inr ⟨_, by simp [List.replicate_succ], lineEnd_starts hC k rest⟩

theorem kwNum_enc {β : Type} (kw : Bytes) (g : Nat → β) (bound : Nat) (m : List Bool) {n : Nat} {e : Bytes}
    (hn : n < bound) (he : EncNumber n e) :
    Parses (do tagNoCase kw; let n ← numberB bound; pure (g n) : Parser β) (spell kw m ++ e) (g n)
      (Starts notDigit) :=
  .kw m ((number_enc bound hn he).last)

theorem Chain.parses_kwNum {β : Type} {P : Parser β} {rows : List (List Tok × Parser β)} (c : Chain P rows)
    {hs : List Tok} {kw : Bytes} {bound : Nat} {g : Nat → β}
    (hk : rows[kwRow rows kw]? = some (hs, do tagNoCase kw; let n ← numberB bound; pure (g n)))
    (m : List Bool) {n : Nat} {e : Bytes} (hn : n < bound) (he : EncNumber n e) :
    Parses P (spell kw m ++ e) (g n) (Starts notDigit) :=
  c.parses_kw hk (kwNum_enc kw g bound m hn he)

theorem spell_space_head (u : Bytes) (m : List Bool) (r : Bytes) : Starts notDigit (spell (32 :: u) m ++ r) :=
  ((spell_head 32 u m).of_oneOf (by decide)).append r

theorem numKw_enc {β : Type} (u : Bytes) (g : Nat → β) {n : Nat} {e : Bytes} (hn : n < 2 ^ 32) (he : EncNumber n e)
    (m : List Bool) :
    Parses (do let x ← number; tagNoCase (32 :: u); pure (g x) : Parser β) (e ++ spell (32 :: u) m) (g n) Any :=
  .bind (number_enc (2 ^ 32) hn he) ((tagNoCase_spell _ m).last) fun r _ => spell_space_head u m r

theorem numKw_err {β : Type} (t : Bytes) (g : Nat → β) {n : Nat} {e : Bytes} (u : Bytes) (m : List Bool) (r : Bytes)
    (hn : n < 2 ^ 32) (h : EncNumber n e) (hm : mismatch t (32 :: u) = true) :
    (do let x ← number; tagNoCase t; pure (g x) : Parser β) (e ++ (spell (32 :: u) m ++ r)) = .err :=
  (bind_ok _ (number_enc (2 ^ 32) hn h _ (spell_space_head u m r))).trans
    (bind_err _ (tagNoCase_mismatch t _ m r hm))

/-! ### what `sequence_set` (core.rs) and `uid_set` (rfc4315.rs) share -/

def seqMemberEnd (c : UInt8) : Bool := notDigit c && c != 58
def seqSetEnd (c : UInt8) : Bool := seqMemberEnd c && c != 44

theorem setNumber_enc {n : Nat} {e : Bytes} (hn : n < 2 ^ 32) (he : EncNumber n e) :
    Parses number e n (Starts seqMemberEnd) :=
  (number_enc (2 ^ 32) hn he).follow fun _ hc => (Bool.and_eq_true_iff.1 hc).1

theorem setSingle_enc {β : Type} (g : Nat → Nat → β) (f : Nat → β) {n : Nat} {e : Bytes} (hn : n < 2 ^ 32)
    (he : EncNumber n e) :
    Parses (alt (do let a ← number; tag (b!":"); let b ← number; pure (g a b)) (map number f)) e (f n)
      (Starts seqMemberEnd) := by
  refine .altR (.map (setNumber_enc hn he)) fun rest hr => ?_
  -- the range alternative reads the number and finds no `:`
  exact (bind_ok _ (setNumber_enc hn he rest hr)).trans (bind_err _ (tag_err_class (by decide) hr))

theorem setRange_enc {β : Type} (g : Nat → Nat → β) (f : Nat → β) {a b : Nat} {ea eb : Bytes} (ha : a < 2 ^ 32)
    (hb : b < 2 ^ 32) (hea : EncNumber a ea) (heb : EncNumber b eb) :
    Parses (alt (do let a ← number; tag (b!":"); let b ← number; pure (g a b)) (map number f))
      (ea ++ (b!":" ++ eb)) (g a b) (Starts seqMemberEnd) :=
  .altL <| .bindS (number_enc (2 ^ 32) ha hea) (.cons (by decide) _) <| .seq (tag_ok _) <|
    (setNumber_enc hb heb).last

theorem commaSet_enc {β : Type} {p : Parser β} (first : Bytes × β) (others : List (Bytes × β))
    (hall : ∀ y ∈ first :: others, Parses p y.1 y.2 (Starts seqMemberEnd)) :
    Parses (sepList1 (tag (b!",")) p) (first.1 ++ (others.map fun x => b!"," ++ x.1).flatten)
      (first.2 :: others.map (·.2)) (Starts seqSetEnd) :=
  Parses.sepList1_const (b!",") (by simp) (Starts seqMemberEnd) (Starts seqSetEnd) first others (tag_ok _) hall
    (fun r => .cons (by decide) r) (fun _ hr => hr.mono fun _ hc => (Bool.and_eq_true_iff.1 hc).1)
    (fun _ hr => .inl (tag_err_class (by decide) hr))

end RT
