/-
  The dispatch tables of the grammar: for a production that is a chain of alternatives, the alternatives
  in the order the parser tries them, each with the ways an input it accepts can begin.  (Two small chains
  stand with their productions: `sectionMsgtext_chain`, `encKw_chain`.)
-/
import ImapVerif.Proofs.RT.First

open Bytes Parser Grammar

namespace RT

theorem respTextCodeAlt_chain : Chain respTextCodeAlt
    [ ([.word (b!"ALERT")], map (tagNoCase (b!"ALERT")) fun _ => ResponseCode.alert),
      ([.word (b!"BADCHARSET")], respTextCodeBadCharset),
      ([.word (b!"CAPABILITY")], map capabilityData ResponseCode.capabilities),
      ([.word (b!"PARSE")], map (tagNoCase (b!"PARSE")) fun _ => ResponseCode.parse),
      ([.word (b!"PERMANENTFLAGS ")], respTextCodePermanentFlags),
      ([.word (b!"UIDVALIDITY ")], respTextCodeUidValidity),
      ([.word (b!"UIDNEXT ")], respTextCodeUidNext),
      ([.word (b!"UNSEEN ")], respTextCodeUnseen),
      ([.word (b!"READ-ONLY")], map (tagNoCase (b!"READ-ONLY")) fun _ => ResponseCode.readOnly),
      ([.word (b!"READ-WRITE")], map (tagNoCase (b!"READ-WRITE")) fun _ => ResponseCode.readWrite),
      ([.word (b!"TRYCREATE")], map (tagNoCase (b!"TRYCREATE")) fun _ => ResponseCode.tryCreate),
      ([.word (b!"HIGHESTMODSEQ ")], respTextCodeHighestModSeq),
      ([.word (b!"APPENDUID ")], respTextCodeAppendUid),
      ([.word (b!"COPYUID ")], respTextCodeCopyUid),
      ([.word (b!"UIDNOTSTICKY")], respTextCodeUidNotSticky),
      ([.word (b!"METADATA LONGENTRIES ")], respTextCodeMetadataLongEntries),
      ([.word (b!"METADATA MAXSIZE ")], respTextCodeMetadataMaxSize),
      ([.word (b!"METADATA TOOMANY")], respTextCodeMetadataTooMany),
      ([.word (b!"METADATA NOPRIVATE")], respTextCodeMetadataNoPrivate) ] :=
  .cons (.map (.tagNoCase _)) <| .cons (.bind (.tagNoCase _)) <| .cons (.map (.mapRes (.bind (.tagNoCase _)))) <|
  .cons (.map (.tagNoCase _)) <| .cons (.bind (.tagNoCase _)) <| .cons (.bind (.tagNoCase _)) <|
  .cons (.bind (.tagNoCase _)) <| .cons (.bind (.tagNoCase _)) <| .cons (.map (.tagNoCase _)) <|
  .cons (.map (.tagNoCase _)) <| .cons (.map (.tagNoCase _)) <| .cons (.bind (.tagNoCase _)) <|
  .cons (.bind (.tagNoCase _)) <| .cons (.bind (.tagNoCase _)) <| .cons (.map (.tagNoCase _)) <|
  .cons (.bind (.tagNoCase _)) <| .cons (.bind (.tagNoCase _)) <| .cons (.map (.tagNoCase _)) <|
  .one (.map (.tagNoCase _))

theorem statusP_chain : Chain statusP
    [ ([.word (b!"OK")], map (tagNoCase (b!"OK")) fun _ => Status.ok),
      ([.word (b!"NO")], map (tagNoCase (b!"NO")) fun _ => Status.no),
      ([.word (b!"BAD")], map (tagNoCase (b!"BAD")) fun _ => Status.bad),
      ([.word (b!"PREAUTH")], map (tagNoCase (b!"PREAUTH")) fun _ => Status.preAuth),
      ([.word (b!"BYE")], map (tagNoCase (b!"BYE")) fun _ => Status.bye) ] :=
  .cons (.map (.tagNoCase _)) <| .cons (.map (.tagNoCase _)) <| .cons (.map (.tagNoCase _)) <|
  .cons (.map (.tagNoCase _)) <| .one (.map (.tagNoCase _))

/-- msg-att: `BODY` is read as `BODY[` when a bracket follows; `BODYSTRUCTURE ` and `BODY ` come after it -/
def msgAttRows : List (List Tok × Parser AttributeValue) :=
  [ ([⟨b!"BODY", (· == 91)⟩], msgAttBodySection),
    ([.word (b!"BODYSTRUCTURE ")], msgAttBodyStructure),
    ([.word (b!"BODY ")], msgAttBody),
    ([.word (b!"ENVELOPE ")], msgAttEnvelope),
    ([.word (b!"INTERNALDATE ")], msgAttInternalDate),
    ([.word (b!"FLAGS ")], msgAttFlags),
    ([.word (b!"MODSEQ ")], msgAttModSeq),
    ([.word (b!"RFC822 ")], msgAttRfc822),
    ([.word (b!"RFC822.HEADER ")], msgAttRfc822Header),
    ([.word (b!"RFC822.SIZE ")], msgAttRfc822Size),
    ([.word (b!"RFC822.TEXT ")], msgAttRfc822Text),
    ([.word (b!"UID ")], msgAttUid),
    ([.word (b!"X-GM-LABELS ")], msgAttGmailLabels),
    ([.word (b!"X-GM-MSGID ")], msgAttGmailMsgId) ]

theorem msgAtt_chain : Chain msgAtt msgAttRows :=
  .cons (.kwThen (b!"BODY") (.bind (.bind (.char 91))) (by simp)) <|
  .cons (.bind (.tagNoCase _)) <| .cons (.bind (.tagNoCase _)) <| .cons (.bind (.tagNoCase _)) <|
  .cons (.mapRes (.bind (.tagNoCase _))) <| .cons (.bind (.tagNoCase _)) <| .cons (.bind (.tagNoCase _)) <|
  .cons (.bind (.tagNoCase _)) <| .cons (.bind (.tagNoCase _)) <| .cons (.bind (.tagNoCase _)) <|
  .cons (.bind (.tagNoCase _)) <| .cons (.bind (.tagNoCase _)) <| .cons (.map (.bind (.tagNoCase _))) <|
  .one (.map (.bind (.tagNoCase _)))

theorem statusAtt_chain : Chain statusAtt
    [ ([.word (b!"HIGHESTMODSEQ ")], statusAttValHighestModSeq),
      ([.word (b!"MESSAGES ")], do tagNoCase (b!"MESSAGES "); let n ← number; pure (StatusAttribute.messages n)),
      ([.word (b!"RECENT ")], do tagNoCase (b!"RECENT "); let n ← number; pure (StatusAttribute.recent n)),
      ([.word (b!"UIDNEXT ")], do tagNoCase (b!"UIDNEXT "); let n ← number; pure (StatusAttribute.uidNext n)),
      ([.word (b!"UIDVALIDITY ")], do tagNoCase (b!"UIDVALIDITY "); let n ← number; pure (StatusAttribute.uidValidity n)),
      ([.word (b!"UNSEEN ")], do tagNoCase (b!"UNSEEN "); let n ← number; pure (StatusAttribute.unseen n)) ] :=
  .cons (.bind (.tagNoCase _)) <| .cons (.bind (.tagNoCase _)) <| .cons (.bind (.tagNoCase _)) <|
  .cons (.bind (.tagNoCase _)) <| .cons (.bind (.tagNoCase _)) <| .one (.bind (.tagNoCase _))

/-- mailbox-data: EXISTS and RECENT begin with a numeral -/
def mailboxDataRows : List (List Tok × Parser MailboxDatum) :=
  [ ([.word (b!"FLAGS ")], mailboxDataFlags),
    ([.cls isDigit], mailboxDataExists),
    ([.word (b!"LIST ")], mailboxDataList),
    ([.word (b!"LSUB ")], mailboxDataLsub),
    ([.word (b!"STATUS ")], mailboxDataStatus),
    ([.cls isDigit], mailboxDataRecent),
    ([.word (b!"SEARCH")], mailboxDataSearch),
    ([.word (b!"X-GM-LABELS ")], mailboxDataGmailLabels),
    ([.word (b!"X-GM-MSGID ")], mailboxDataGmailMsgId),
    ([.word (b!"SORT")], mailboxDataSort) ]

theorem mailboxData_chain : Chain mailboxData mailboxDataRows :=
  .cons (.bind (.tagNoCase _)) <| .cons (.bind (.number _)) <| .cons (.bind (.tagNoCase _)) <|
  .cons (.bind (.tagNoCase _)) <| .cons (.bind (.tagNoCase _)) <| .cons (.bind (.number _)) <|
  .cons (.bind (.tagNoCase _)) <| .cons (.map (.bind (.tagNoCase _))) <| .cons (.map (.bind (.tagNoCase _))) <|
  .one (.bind (.tagNoCase _))

/-- response-data: two rows share `METADATA `; `QUOTA` needs white space after it, so `QUOTAROOT` passes -/
def responseDataRows : List (List Tok × Parser Response) :=
  [ ([.word (b!"OK"), .word (b!"NO"), .word (b!"BAD"), .word (b!"PREAUTH"), .word (b!"BYE")], respCond),
    (mailboxDataRows.flatMap (·.1), map mailboxData Response.mailboxData),
    ([.cls isDigit], map messageDataExpunge Response.expunge),
    ([.cls isDigit], messageDataFetch),
    ([.word (b!"CAPABILITY")], map capabilityData Response.capabilities),
    ([.word (b!"ENABLED")], respEnabled),
    ([.word (b!"METADATA ")], metadataSolicited),
    ([.word (b!"METADATA ")], metadataUnsolicited),
    ([.word (b!"VANISHED")], respVanished),
    ([⟨b!"QUOTA", isSpace⟩], quota),
    ([.word (b!"QUOTAROOT")], quotaRoot),
    ([.word (b!"ID")], respId),
    ([.word (b!"ACL")], acl),
    ([.word (b!"LISTRIGHTS")], listRights),
    ([.word (b!"MYRIGHTS")], myRights) ]

theorem responseDataAlt_chain : Chain responseDataAlt responseDataRows :=
  .cons (.bind statusP_chain.first) <| .cons (.map mailboxData_chain.first) <|
  .cons (.map (.bind (.number _))) <| .cons (.bind (.number _)) <|
  .cons (.map (.mapRes (.bind (.tagNoCase _)))) <| .cons (.map (.bind (.tagNoCase _))) <|
  .cons (.bind (.bind (.tagNoCase _))) <| .cons (.bind (.bind (.tagNoCase _))) <|
  .cons (.bind (.tagNoCase _)) <| .cons (.kwThen (b!"QUOTA") (.bind .space1) (by simp)) <|
  .cons (.bind (.tagNoCase _)) <| .cons (.bind (.tagNoCase _)) <| .cons (.bind (.tagNoCase _)) <|
  .cons (.bind (.tagNoCase _)) <| .one (.bind (.tagNoCase _))

end RT
