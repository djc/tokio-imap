/-
  Round trip, the framework: `Parses p e v F` says that on every input `e ++ rest` with `F rest` the parser
  `p` accepts exactly `e` and returns `v`.  Rules for sequencing, alternatives, mapping, options and
  repetition; keyword spellings; the combinator leaves.  A production is stated for the weakest follow set
  under which it holds: `Any` without look-ahead, `Starts` of the complement of the byte class whose run
  ends it otherwise.  What an encoding begins with is a `Starts` fact as well.
  A rule is named after its combinator (`Parses.map`): inside later statements of that namespace the combinator
  itself has to be written `Parser.map`.  Which rule when: DESIGN.md 0.10.
-/
import ImapVerif.Grammar.Rfc3501
import ImapVerif.Proofs.NomEq
import ImapVerif.Proofs.Byte

open Bytes Parser Grammar

namespace RT

def Parses (p : Parser α) (e : Bytes) (v : α) (F : Bytes → Prop) : Prop :=
  ∀ rest, F rest → p (e ++ rest) = .ok v rest

def Any : Bytes → Prop := fun _ => True

def Starts (P : UInt8 → Bool) : Bytes → Prop := fun r => ∃ c t, r = c :: t ∧ P c = true

theorem Starts.cons {P : UInt8 → Bool} {c : UInt8} (h : P c = true) (t : Bytes) : Starts P (c :: t) :=
  ⟨c, t, rfl, h⟩

theorem Starts.append {P : UInt8 → Bool} {e : Bytes} (h : Starts P e) (r : Bytes) : Starts P (e ++ r) := by
  obtain ⟨c, t, rfl, hc⟩ := h
  exact ⟨c, t ++ r, rfl, hc⟩

theorem Starts.mono {P Q : UInt8 → Bool} {r : Bytes} (h : Starts P r) (hPQ : ∀ c, P c = true → Q c = true) :
    Starts Q r := by
  obtain ⟨c, t, hr, hc⟩ := h
  exact ⟨c, t, hr, hPQ c hc⟩

theorem Starts.of_all {P : UInt8 → Bool} {s : Bytes} (hne : s ≠ []) (hall : ∀ c ∈ s, P c = true) : Starts P s := by
  cases s with
  | nil => exact absurd rfl hne
  | cons a as => exact .cons (hall a (by simp)) as

theorem Starts.ne_nil {P : UInt8 → Bool} {e : Bytes} (h : Starts P e) : e ≠ [] := by
  obtain ⟨c, t, rfl, _⟩ := h
  exact List.cons_ne_nil c t

/-- the follow sets of the grammar are a few delimiters; that such a set lies inside a byte class is decided
    on its members (`Starts.of_oneOf`) -/
def oneOf (bs : List UInt8) (c : UInt8) : Bool := bs.contains c

theorem Starts.of_oneOf {Q : UInt8 → Bool} {bs : List UInt8} {r : Bytes} (h : Starts (oneOf bs) r)
    (hQ : bs.all Q = true) : Starts Q r :=
  h.mono fun c hc => List.all_eq_true.1 hQ c (List.contains_iff_mem.1 hc)

theorem Parses.weaken {p : Parser α} {F G : Bytes → Prop} (h : Parses p e v F) (hg : ∀ r, G r → F r) :
    Parses p e v G := fun r hr => h r (hg r hr)

theorem Parses.any {p : Parser α} (h : Parses p e v Any) {F : Bytes → Prop} : Parses p e v F :=
  h.weaken fun _ _ => trivial

theorem Parses.follow {p : Parser α} {P Q : UInt8 → Bool} (h : Parses p e v (Starts P))
    (hQP : ∀ c, Q c = true → P c = true) : Parses p e v (Starts Q) := h.weaken fun _ hr => hr.mono hQP

theorem Parses.followOf {p : Parser α} {P : UInt8 → Bool} (h : Parses p e v (Starts P)) {bs : List UInt8}
    (hbs : bs.all P = true) : Parses p e v (Starts (oneOf bs)) := h.weaken fun _ hr => hr.of_oneOf hbs

theorem Parses.pure (v : α) (F) : Parses (Pure.pure v : Parser α) [] v F := by
  intro rest _; rfl

theorem Parses.bind {p : Parser α} {f : α → Parser β} {F1 F : Bytes → Prop}
    (hp : Parses p e1 v1 F1) (hf : Parses (f v1) e2 v2 F) (hfollow : ∀ r, F r → F1 (e2 ++ r)) :
    Parses (p >>= f) (e1 ++ e2) v2 F := by
  intro rest hr
  show Parser.bindP p f (e1 ++ e2 ++ rest) = _
  unfold Parser.bindP
  rw [List.append_assoc, hp (e2 ++ rest) (hfollow rest hr)]
  exact hf rest hr

theorem Parses.seq {p : Parser α} {f : α → Parser β} {F : Bytes → Prop}
    (hp : Parses p e1 v1 Any) (hf : Parses (f v1) e2 v2 F) : Parses (p >>= f) (e1 ++ e2) v2 F :=
  Parses.bind hp hf fun _ _ => trivial

theorem Parses.bindS {p : Parser α} {f : α → Parser β} {C : UInt8 → Bool} {F : Bytes → Prop}
    (hp : Parses p e1 v1 (Starts C)) (he : Starts C e2) (hf : Parses (f v1) e2 v2 F) :
    Parses (p >>= f) (e1 ++ e2) v2 F :=
  .bind hp hf fun r _ => he.append r

theorem Parses.bind_nil {p : Parser α} {f : α → Parser β} {F : Bytes → Prop}
    (hp : Parses p e v F) (hf : Parses (f v) [] w F) : Parses (p >>= f) e w F := by
  have := Parses.bind hp hf fun _ h => h
  rwa [List.append_nil] at this

theorem Parses.last {p : Parser α} {F : Bytes → Prop} {g : α → β} (hp : Parses p e v F) :
    Parses (p >>= fun x => Pure.pure (g x)) e (g v) F :=
  hp.bind_nil (.pure _ _)

theorem Parses.altL {p q : Parser α} (hp : Parses p e v F) : Parses (alt p q) e v F := by
  intro rest hr; unfold alt; rw [hp rest hr]

theorem Parses.altR {p q : Parser α} (hq : Parses q e v F) (hp : ∀ rest, F rest → p (e ++ rest) = .err) :
    Parses (alt p q) e v F := by
  intro rest hr; unfold alt; rw [hp rest hr]; exact hq rest hr

theorem Parses.map {p : Parser α} {g : α → β} (hp : Parses p e v F) : Parses (map p g) e (g v) F := hp.last

theorem Parses.mapRes {p : Parser α} {g : α → Option β} {w : β} (hp : Parses p e v F) (hg : g v = some w) :
    Parses (mapRes p g) e w F := by
  intro rest hr; unfold Parser.mapRes; rw [hp rest hr]; simp [hg]

theorem Parses.mapPanic {p : Parser α} {g : α → Option β} {w : β} (hp : Parses p e v F) (hg : g v = some w) :
    Parses (mapPanic p g) e w F := by
  intro rest hr; unfold Parser.mapPanic; rw [hp rest hr]; simp [hg]

theorem Parses.optSome {p : Parser α} (hp : Parses p e v F) : Parses (opt p) e (some v) F := by
  intro rest hr; unfold Parser.opt; rw [hp rest hr]

theorem Parses.optNone {p : Parser α} {F : Bytes → Prop} (hp : ∀ rest, F rest → p rest = .err) :
    Parses (opt p) [] none F := by
  intro rest hr; unfold Parser.opt; simp [hp rest hr]

theorem Parses.skipOpt {p : Parser α} {f : Option α → Parser β} {F : Bytes → Prop}
    (hf : Parses (f none) e v F) (hp : ∀ r, F r → p (e ++ r) = .err) : Parses (opt p >>= f) e v F :=
  .bind (e1 := []) (F1 := fun i => ∃ r, F r ∧ i = e ++ r) (.optNone fun _ ⟨r, hr, h⟩ => h ▸ hp r hr) hf
    fun r hr => ⟨r, hr, rfl⟩

theorem Parses.optOptSome {p : Parser (Option α)} (hp : Parses p e v F) : Parses (optOpt p) e v F := by
  intro rest hr; unfold Parser.optOpt; rw [hp rest hr]

theorem Parses.optOptNone {p : Parser (Option α)} {F : Bytes → Prop} (hp : ∀ rest, F rest → p rest = .err) :
    Parses (optOpt p) [] none F := by
  intro rest hr; unfold Parser.optOpt; simp [hp rest hr]

def flipCase (c : UInt8) : UInt8 :=
  if 65 ≤ c ∧ c ≤ 90 then c + 32 else if 97 ≤ c ∧ c ≤ 122 then c - 32 else c

/-- a spelling of a keyword: each letter in either case (mask), non-letters unchanged -/
def spell : Bytes → List Bool → Bytes
  | [], _ => []
  | c :: cs, [] => c :: cs
  | c :: cs, m :: ms => (if m then flipCase c else c) :: spell cs ms

theorem lower_flip : ∀ c : UInt8, lower (flipCase c) = lower c := by decide +kernel

theorem spell_nil (u : Bytes) : spell u [] = u := by cases u <;> rfl

theorem spell_length (t : Bytes) (m : List Bool) : (spell t m).length = t.length := by
  induction t generalizing m with
  | nil => cases m <;> rfl
  | cons c cs ih => cases m <;> simp [spell, ih]

theorem spell_append (a b : Bytes) (m : List Bool) :
    spell (a ++ b) m = spell a m ++ spell b (m.drop a.length) := by
  induction a generalizing m with
  | nil => cases m <;> simp [spell]
  | cons c cs ih =>
    cases m with
    | nil => simp [spell, spell_nil]
    | cons k ks => simp [spell, ih]

theorem spell_cons (c : UInt8) (t : Bytes) (m : List Bool) :
    ∃ c', spell (c :: t) m = c' :: spell t m.tail ∧ (c' = c ∨ c' = flipCase c) := by
  cases m with
  | nil => exact ⟨c, by simp [spell, spell_nil], Or.inl rfl⟩
  | cons k ks => cases k <;> simp [spell]

theorem spell_snoc (u : Bytes) (m : List Bool) (c : UInt8) (hc : flipCase c = c) (r : Bytes) :
    spell u m ++ c :: r = spell (u ++ [c]) m ++ r := by
  rw [spell_append]
  have : spell [c] (m.drop u.length) = [c] := by
    cases m.drop u.length with
    | nil => rfl
    | cons k ks => cases k <;> simp [spell, hc]
  rw [this]; simp

theorem spell_head (c : UInt8) (u : Bytes) (m : List Bool) : Starts (oneOf [c, flipCase c]) (spell (c :: u) m) := by
  obtain ⟨c', hc', hcc⟩ := spell_cons c u m
  rw [hc']
  exact .cons (by rcases hcc with rfl | rfl <;> simp [oneOf]) _

/-- `h` is decided on the keyword's bytes; as closure of `P` under `flipCase` it would be a table of 256 rows -/
theorem spell_all_mem {P : UInt8 → Bool} (t : Bytes) (m : List Bool)
    (h : ∀ c ∈ t, P c = true ∧ P (flipCase c) = true) : ∀ c ∈ spell t m, P c = true := by
  induction t generalizing m with
  | nil => exact fun c hc => (h c hc).1
  | cons a as ih =>
    obtain ⟨a', ha', haa⟩ := spell_cons a as m
    rw [List.forall_mem_cons] at h
    rw [ha', List.forall_mem_cons]
    refine ⟨?_, ih m.tail h.2⟩
    rcases haa with rfl | rfl
    · exact h.1.1
    · exact h.1.2

theorem tagNoCase_spell_cons (a b : UInt8) (t u : Bytes) (m : List Bool) (r : Bytes) :
    tagNoCase (a :: t) (spell (b :: u) m ++ r) =
      if lower a == lower b then tagNoCase t (spell u m.tail ++ r) else .err := by
  obtain ⟨x, hx, hxb⟩ := spell_cons b u m
  have hl : lower x = lower b := by rcases hxb with rfl | rfl <;> simp [lower_flip]
  rw [hx]
  simp only [tagNoCase, List.cons_append, tagGo, hl]

theorem tagNoCase_spell (t : Bytes) (m : List Bool) : Parses (tagNoCase t) (spell t m) () Any := by
  intro rest _
  induction t generalizing m with
  | nil => cases m <;> rfl
  | cons c cs ih =>
    rw [tagNoCase_spell_cons, beq_self_eq_true, if_pos rfl]
    exact ih m.tail

theorem Parses.kw {t : Bytes} {f : Unit → Parser β} {F : Bytes → Prop} (m : List Bool) (hf : Parses (f ()) e v F) :
    Parses (tagNoCase t >>= f) (spell t m ++ e) v F :=
  .seq (tagNoCase_spell t m) hf

theorem kwOnly_enc {β : Type} (kw : Bytes) (v : β) (m : List Bool) (F : Bytes → Prop) :
    Parses (Parser.map (tagNoCase kw) fun _ => v) (spell kw m) v F :=
  Parses.map (tagNoCase_spell kw m).any

theorem kwBind_err_after {β : Type} (t : Bytes) (f : Unit → Parser β) (m : List Bool) (i : Bytes)
    (h : f () i = .err) : (tagNoCase t >>= f) (spell t m ++ i) = .err :=
  (bind_ok _ (tagNoCase_spell t m i trivial)).trans h

/-- the case-insensitive keywords `t` and `u` differ at some position both have (a prefix of a keyword does not) -/
def mismatch : Bytes → Bytes → Bool
  | [], _ => false
  | _, [] => false
  | a :: as, b :: bs => if lower a == lower b then mismatch as bs else true

theorem tagNoCase_mismatch (t u : Bytes) (m : List Bool) (rest : Bytes) (h : mismatch t u = true) :
    tagNoCase t (spell u m ++ rest) = .err := by
  induction t generalizing u m with
  | nil => cases h
  | cons a as ih =>
    cases u with
    | nil => cases h
    | cons b bs =>
      rw [tagNoCase_spell_cons]
      simp only [mismatch] at h
      split
      next heq =>
        rw [if_pos heq] at h
        exact ih bs m.tail h
      · rfl

theorem mismatch_plain (t u : Bytes) (rest : Bytes) (h : mismatch t u = true) :
    tagNoCase t (u ++ rest) = .err := by
  have := tagNoCase_mismatch t u [] rest h
  rwa [spell_nil] at this

theorem tag_err_first {c x : UInt8} {t r : Bytes} (h : (c == x) = false) : tag (c :: t) (x :: r) = .err := by
  simp [tag, tagGo, h]

theorem tag_err_class {P : UInt8 → Bool} {c : UInt8} {t r : Bytes} (hc : P c = false) (hr : Starts P r) :
    tag (c :: t) r = .err := by
  obtain ⟨x, r', rfl, hx⟩ := hr
  exact tag_err_first (ne_of_class hx hc)

theorem char_ok (c : UInt8) : Parses (char c) [c] () Any := by
  intro rest _; simp [char]

theorem char_err (c x : UInt8) (r : Bytes) (h : (x == c) = false) : char c (x :: r) = .err := by
  simp [char, h]

theorem tag_ok (t : Bytes) : Parses (tag t) t () Any := by
  intro rest _
  unfold tag
  induction t with
  | nil => simp [tagGo]
  | cons c cs ih => simp [tagGo, ih]

theorem takeWhile_ok (f : UInt8 → Bool) (s : Bytes) (hs : ∀ x ∈ s, f x = true) :
    Parses (takeWhile f) s s (Starts fun c => !f c) := by
  intro rest ⟨c, t, hr, hc⟩
  subst hr
  exact takeWhile_stop t hs (by simpa using hc)

theorem takeWhile1_ok (f : UInt8 → Bool) (s : Bytes) (hne : s ≠ []) (hs : ∀ x ∈ s, f x = true) :
    Parses (takeWhile1 f) s s (Starts fun c => !f c) := by
  rw [takeWhile1_eq]
  exact Parses.mapRes (takeWhile_ok f s hs) (if_neg hne)

theorem take_exact (s rest : Bytes) : take s.length (s ++ rest) = .ok s rest := by
  simp [take]

/-! ### repetition

  A list is given by its items, each with the encoding of the separator in front of it, its own encoding
  and its value.  `G` is the follow set of an item, `S` that of a separator, `F` that of the whole list;
  every item is followed by the next separator or by the final continuation. -/

def ListEnds (sep : Parser Unit) (p : Parser α) (r : Bytes) : Prop :=
  sep r = .err ∨ ∃ r', sep r = .ok () r' ∧ r'.length < r.length ∧ p r' = .err

theorem ListEnds.pre_err {sep : Parser Unit} {p : Parser α} {r : Bytes} (h : ListEnds sep p r) :
    (do sep; p : Parser α) r = .err :=
  h.elim (bind_err _) fun ⟨_, h1, _, h3⟩ => (bind_ok _ h1).trans h3

theorem follow_items {G F : Bytes → Prop} (es : List Bytes) (hG : ∀ e ∈ es, ∀ r, G (e ++ r))
    (hG_F : ∀ r, F r → G r) (rest : Bytes) (hF : F rest) : G (es.flatten ++ rest) := by
  cases es with
  | nil => exact hG_F rest hF
  | cons e es' =>
    have := hG e (by simp) (es'.flatten ++ rest)
    simpa [List.append_assoc] using this

theorem many0Go_items {p : Parser α} (G F : Bytes → Prop)
    (hG_F : ∀ r, F r → G r) (hstop : ∀ r, F r → p r = .err) :
    ∀ (items : List (Bytes × α)),
      (∀ x ∈ items, Parses p x.1 x.2 G) → (∀ x ∈ items, x.1 ≠ []) →
      (∀ x ∈ items, ∀ r, G (x.1 ++ r)) →
      ∀ (fuel : Nat) (acc : List α) (rest : Bytes), F rest →
        ((items.map (·.1)).flatten ++ rest).length < fuel →
        many0Go p fuel ((items.map (·.1)).flatten ++ rest) acc = .ok (acc.reverse ++ items.map (·.2)) rest := by
  intro items
  induction items with
  | nil =>
    intro _ _ _ fuel acc rest hF hfuel
    obtain ⟨n, rfl⟩ := Nat.exists_eq_add_one_of_ne_zero (Nat.ne_zero_of_lt hfuel)
    simp [many0Go, hstop rest hF]
  | cons x xs ih =>
    intro hp hne hGi fuel acc rest hF hfuel
    rw [List.forall_mem_cons] at hp hne hGi
    obtain ⟨n, rfl⟩ := Nat.exists_eq_add_one_of_ne_zero (Nat.ne_zero_of_lt hfuel)
    have hx := hp.1 _ (follow_items (xs.map (·.1)) (List.forall_mem_map.2 hGi.2) hG_F rest hF)
    have hpos := List.length_pos_iff.2 hne.1
    simp only [List.map_cons, List.flatten_cons, List.append_assoc, List.length_append] at hfuel hx ⊢
    simp only [many0Go, hx]
    rw [if_pos (by simp only [List.length_append]; omega),
      ih hp.2 hne.2 hGi.2 n _ rest hF (by simp only [List.length_append]; omega)]
    simp

/-- an item is not empty: where the list ends `p` answers Error, and it would accept the empty item there -/
theorem item_ne_nil {p : Parser α} {G F : Bytes → Prop} {e : Bytes} {v : α} (hp : Parses p e v G)
    (hG_F : ∀ r, F r → G r) (hstop : ∀ r, F r → p r = .err) {rest : Bytes} (hF : F rest) : e ≠ [] := by
  rintro rfl
  have := hp rest (hG_F rest hF)
  rw [List.nil_append, hstop rest hF] at this
  cases this

theorem Parses.many0 {p : Parser α} (G F : Bytes → Prop) (items : List (Bytes × α))
    (hp : ∀ x ∈ items, Parses p x.1 x.2 G)
    (hGi : ∀ x ∈ items, ∀ r, G (x.1 ++ r)) (hG_F : ∀ r, F r → G r) (hstop : ∀ r, F r → p r = .err)
    (acc : List α := []) :
    Parses (many0From p acc) (items.map (·.1)).flatten (acc.reverse ++ items.map (·.2)) F :=
  fun rest hF => many0Go_items G F hG_F hstop items hp (fun x hx => item_ne_nil (hp x hx) hG_F hstop hF) hGi _ acc
    rest hF (Nat.lt_succ_self _)

theorem Parses.many1 {p : Parser α} (G F : Bytes → Prop) (x : Bytes × α) (items : List (Bytes × α))
    (hp : ∀ y ∈ x :: items, Parses p y.1 y.2 G)
    (hGi : ∀ y ∈ items, ∀ r, G (y.1 ++ r)) (hG_F : ∀ r, F r → G r) (hstop : ∀ r, F r → p r = .err) :
    Parses (Parser.many1 p) (x.1 ++ (items.map (·.1)).flatten) (x.2 :: items.map (·.2)) F := by
  rw [many1_eq]
  exact Parses.bind (hp x (by simp)) (Parses.many0 G F items (fun y hy => hp y (by simp [hy])) hGi hG_F hstop [x.2])
    (follow_items (items.map (·.1)) (List.forall_mem_map.2 hGi) hG_F)

theorem Parses.many0_sep {sep : Parser Unit} {p : Parser α} (S G F : Bytes → Prop)
    (items : List (Bytes × Bytes × α))
    (hsep : ∀ x ∈ items, Parses sep x.1 () S) (hp : ∀ x ∈ items, Parses p x.2.1 x.2.2 G)
    (hS : ∀ x ∈ items, ∀ r, S (x.2.1 ++ r)) (hGs : ∀ x ∈ items, ∀ r, G (x.1 ++ r))
    (hG_F : ∀ r, F r → G r) (hstop : ∀ r, F r → ListEnds sep p r) :
    Parses (Parser.many0 (do sep; p)) (items.map (fun x => x.1 ++ x.2.1)).flatten (items.map (·.2.2)) F := by
  have key := Parses.many0 (p := (do sep; p : Parser α)) G F (items.map fun x => (x.1 ++ x.2.1, x.2.2))
    ?_ ?_ hG_F fun r hr => (hstop r hr).pre_err
  · simpa [many0_eq, List.map_map, Function.comp_def] using key
  · exact List.forall_mem_map.2 fun x hx => Parses.bind (hsep x hx) (hp x hx) fun r _ => hS x hx r
  · exact List.forall_mem_map.2 fun x hx r => List.append_assoc .. ▸ hGs x hx (x.2.1 ++ r)

theorem sepGo_items {sep : Parser Unit} {p : Parser α} (S G F : Bytes → Prop)
    (hG_F : ∀ r, F r → G r)
    (hstop : ∀ r, F r → ListEnds sep p r) :
    ∀ (items : List (Bytes × Bytes × α)),
      (∀ x ∈ items, Parses sep x.1 () S ∧ x.1 ≠ []) → (∀ x ∈ items, Parses p x.2.1 x.2.2 G) →
      (∀ x ∈ items, ∀ r, S (x.2.1 ++ r)) → (∀ x ∈ items, ∀ r, G (x.1 ++ r)) →
      ∀ (fuel : Nat) (acc : List α) (rest : Bytes), F rest →
        ((items.map (fun x => x.1 ++ x.2.1)).flatten ++ rest).length < fuel →
        sepGo sep p fuel ((items.map (fun x => x.1 ++ x.2.1)).flatten ++ rest) acc
          = .ok (acc.reverse ++ items.map (·.2.2)) rest := by
  intro items
  induction items with
  | nil =>
    intro _ _ _ _ fuel acc rest hF hfuel
    obtain ⟨n, rfl⟩ := Nat.exists_eq_add_one_of_ne_zero (Nat.ne_zero_of_lt hfuel)
    rcases hstop rest hF with h | ⟨r', h1, h2, h3⟩
    · simp [sepGo, h]
    · simp [sepGo, h1, h2, h3]
  | cons x xs ih =>
    intro hsep hp hS hGs fuel acc rest hF hfuel
    rw [List.forall_mem_cons] at hsep hp hS hGs
    obtain ⟨n, rfl⟩ := Nat.exists_eq_add_one_of_ne_zero (Nat.ne_zero_of_lt hfuel)
    have hfollow := follow_items (xs.map fun y => y.1 ++ y.2.1) (List.forall_mem_map.2 fun y hy r =>
      List.append_assoc .. ▸ hGs.2 y hy (y.2.1 ++ r)) hG_F rest hF
    have hs := hsep.1.1 (x.2.1 ++ ((xs.map fun y => y.1 ++ y.2.1).flatten ++ rest)) (hS.1 _)
    have hx := hp.1 _ hfollow
    have hpos := List.length_pos_iff.2 hsep.1.2
    simp only [List.map_cons, List.flatten_cons, List.append_assoc, List.length_append] at hfuel hs hx ⊢
    simp only [sepGo, hs, hx]
    rw [if_pos (by simp only [List.length_append]; omega),
      ih hsep.2 hp.2 hS.2 hGs.2 n _ rest hF (by simp only [List.length_append]; omega)]
    simp

theorem Parses.sepList1 {sep : Parser Unit} {p : Parser α} (S G F : Bytes → Prop)
    (first : Bytes × α) (items : List (Bytes × Bytes × α))
    (hfirst : Parses p first.1 first.2 G)
    (hsep : ∀ x ∈ items, Parses sep x.1 () S ∧ x.1 ≠ []) (hp : ∀ x ∈ items, Parses p x.2.1 x.2.2 G)
    (hS : ∀ x ∈ items, ∀ r, S (x.2.1 ++ r)) (hGs : ∀ x ∈ items, ∀ r, G (x.1 ++ r))
    (hG_F : ∀ r, F r → G r)
    (hstop : ∀ r, F r → ListEnds sep p r) :
    Parses (Parser.sepList1 sep p) (first.1 ++ (items.map (fun x => x.1 ++ x.2.1)).flatten)
      (first.2 :: items.map (·.2.2)) F := by
  rw [sepList1_eq]
  exact Parses.bind hfirst
    (fun rest hF => sepGo_items S G F hG_F hstop items hsep hp hS hGs _ [first.2] rest hF (Nat.lt_succ_self _))
    (follow_items (items.map fun y => y.1 ++ y.2.1)
      (List.forall_mem_map.2 fun y hy r => List.append_assoc .. ▸ hGs y hy (y.2.1 ++ r)) hG_F)

theorem Parses.sepList0_of_sepList1 {sep : Parser Unit} {p : Parser α} {e : Bytes} {v : List α}
    {F : Bytes → Prop} (h : Parses (Parser.sepList1 sep p) e v F) : Parses (Parser.sepList0 sep p) e v F := by
  intro rest hr
  have := h rest hr
  unfold Parser.sepList1 at this
  unfold Parser.sepList0
  cases hp : p (e ++ rest) with
  | ok w r => rw [hp] at this; exact this
  | err | inc | fail | panic => rw [hp] at this; cases this

theorem Parses.sepList0_nil {sep : Parser Unit} {p : Parser α} {F : Bytes → Prop}
    (hstop : ∀ r, F r → p r = .err) : Parses (Parser.sepList0 sep p) [] ([] : List α) F := by
  intro rest hF
  unfold Parser.sepList0
  simp [hstop rest hF]

theorem Parses.sepList1_const {sep : Parser Unit} {p : Parser α} (se : Bytes) (hse : se ≠ []) (G F : Bytes → Prop)
    (x : Bytes × α) (items : List (Bytes × α))
    (hsep : Parses sep se () Any) (hp : ∀ y ∈ x :: items, Parses p y.1 y.2 G)
    (hGs : ∀ r, G (se ++ r)) (hG_F : ∀ r, F r → G r)
    (hstop : ∀ r, F r → ListEnds sep p r) :
    Parses (Parser.sepList1 sep p) (x.1 ++ (items.map fun y => se ++ y.1).flatten) (x.2 :: items.map (·.2)) F := by
  have key := Parses.sepList1 (sep := sep) (p := p) Any G F x (items.map fun y => (se, y.1, y.2))
    (hp x (by simp)) (List.forall_mem_map.2 fun _ _ => ⟨hsep, hse⟩)
    (List.forall_mem_map.2 fun z hz => hp z (by simp [hz])) (fun _ _ _ => trivial)
    (List.forall_mem_map.2 fun _ _ => hGs) hG_F hstop
  simpa [List.map_map, Function.comp_def] using key

theorem Parses.many0_pre {sep : Parser Unit} {p : Parser α} (se : Bytes) (G F : Bytes → Prop)
    (items : List (Bytes × α)) (hsep : Parses sep se () Any) (hp : ∀ x ∈ items, Parses p x.1 x.2 G)
    (hGs : ∀ r, G (se ++ r)) (hG_F : ∀ r, F r → G r) (hstop : ∀ r, F r → ListEnds sep p r) :
    Parses (Parser.many0 (do sep; p)) (items.map fun x => se ++ x.1).flatten (items.map (·.2)) F := by
  have key := Parses.many0_sep (sep := sep) (p := p) Any G F (items.map fun y => (se, y.1, y.2))
    (List.forall_mem_map.2 fun _ _ => hsep) (List.forall_mem_map.2 hp) (fun _ _ _ => trivial)
    (List.forall_mem_map.2 fun _ _ => hGs) hG_F hstop
  simpa [List.map_map, Function.comp_def] using key

end RT
