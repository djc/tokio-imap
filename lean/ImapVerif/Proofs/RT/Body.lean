/-
  Round-trip for rfc3501/body_structure.rs: body parameters, content transfer encoding, body fields,
  language, disposition, extension data, the optional extension fields of a single part and of a
  multipart, the four body types, nesting under the depth budget.
-/
import ImapVerif.Proofs.RT.Envelope

open Bytes Parser Grammar

namespace RT

/-! ### body-fld-param -/

/-- one `string SP string` pair -/
inductive EncPair : Bytes × Bytes → Bytes → Prop
  | mk (k v ek ev : Bytes) : EncString k ek → validUtf8 k = true → EncString v ev → validUtf8 v = true →
      EncPair (k, v) (ek ++ b!" " ++ ev)

def pairP : Parser (Bytes × Bytes) := do
  let key ← stringUtf8
  tag (b!" ")
  let val ← stringUtf8
  pure (key, val)

theorem pair_enc {kv : Bytes × Bytes} {e : Bytes} (h : EncPair kv e) : Parses pairP e kv Any := by
  cases h with
  | mk k v ek ev hk huk hv huv =>
    rw [List.append_assoc]
    exact .seq (stringUtf8_enc hk huk) <| .seq (tag_ok _) <| (stringUtf8_enc hv huv).last

/-- NIL, or a non-empty parenthesised list of pairs -/
inductive EncParams : BodyParams → Bytes → Prop
  | nil (m : List Bool) : EncParams none (spell (b!"NIL") m)
  | some (first : Bytes × (Bytes × Bytes)) (others : List (Bytes × (Bytes × Bytes))) :
      (∀ x ∈ first :: others, EncPair x.2 x.1) →
      EncParams (some (first.2 :: others.map (·.2)))
        ([40] ++ (first.1 ++ (others.map fun x => [32] ++ x.1).flatten) ++ [41])

theorem bodyParam_enc {v : BodyParams} {e : Bytes} (h : EncParams v e) : Parses bodyParam e v Any := by
  cases h with
  | nil m => exact .altL (.map (nil_enc m))
  | some first others hall =>
    exact .altR
      (.map (parenthesizedNonemptyList_enc (S := fun _ => true)
        (fun h => (pair_enc h).any) rfl first others hall Any))
      fun rest _ => (First.map nil_first).err_byte (by decide) _

theorem encParams_head (v : BodyParams) (e : Bytes) (h : EncParams v e) :
    ∃ c t, e = c :: t ∧ (c = 40 ∨ c = 78 ∨ c = 110) := by
  cases h with
  | nil m =>
    obtain ⟨c, t, ht, hc⟩ := nil_head m
    exact ⟨c, t, ht, Or.inr (by simpa [oneOf] using hc)⟩
  | some first others _ => exact ⟨40, _, rfl, Or.inl rfl⟩

/-! ### body-fld-enc -/

/-- the five keywords of body-fld-enc -/
def encKeywords : List Bytes := [b!"7BIT", b!"8BIT", b!"BINARY", b!"BASE64", b!"QUOTED-PRINTABLE"]

/-- the wire forms of a content transfer encoding -/
inductive EncEncoding : ContentEncoding → Bytes → Prop
  | sevenBit (m : List Bool) : EncEncoding .sevenBit ([34] ++ spell (b!"7BIT") m ++ [34])
  | eightBit (m : List Bool) : EncEncoding .eightBit ([34] ++ spell (b!"8BIT") m ++ [34])
  | binary (m : List Bool) : EncEncoding .binary ([34] ++ spell (b!"BINARY") m ++ [34])
  | base64 (m : List Bool) : EncEncoding .base64 ([34] ++ spell (b!"BASE64") m ++ [34])
  | quotedPrintable (m : List Bool) : EncEncoding .quotedPrintable ([34] ++ spell (b!"QUOTED-PRINTABLE") m ++ [34])
  /-- any other string; in quoted form it must differ from the five keywords -/
  | other (s e : Bytes) : EncString s e → validUtf8 s = true →
      (∀ K ∈ encKeywords, mismatch ([34] ++ K ++ [34]) e = true) → EncEncoding (.other s) e

/-- the keyword between the quotes -/
def encKw : Parser ContentEncoding :=
  alt (map (tagNoCase (b!"7BIT")) fun _ => ContentEncoding.sevenBit) <|
  alt (map (tagNoCase (b!"8BIT")) fun _ => ContentEncoding.eightBit) <|
  alt (map (tagNoCase (b!"BINARY")) fun _ => ContentEncoding.binary) <|
  alt (map (tagNoCase (b!"BASE64")) fun _ => ContentEncoding.base64) <|
  map (tagNoCase (b!"QUOTED-PRINTABLE")) fun _ => ContentEncoding.quotedPrintable

theorem encKw_chain : Chain encKw
    [ ([.word (b!"7BIT")], map (tagNoCase (b!"7BIT")) fun _ => ContentEncoding.sevenBit),
      ([.word (b!"8BIT")], map (tagNoCase (b!"8BIT")) fun _ => ContentEncoding.eightBit),
      ([.word (b!"BINARY")], map (tagNoCase (b!"BINARY")) fun _ => ContentEncoding.binary),
      ([.word (b!"BASE64")], map (tagNoCase (b!"BASE64")) fun _ => ContentEncoding.base64),
      ([.word (b!"QUOTED-PRINTABLE")],
        map (tagNoCase (b!"QUOTED-PRINTABLE")) fun _ => ContentEncoding.quotedPrintable) ] :=
  .cons (.map (.tagNoCase _)) <| .cons (.map (.tagNoCase _)) <| .cons (.map (.tagNoCase _)) <|
  .cons (.map (.tagNoCase _)) <| .one (.map (.tagNoCase _))

/-- the first alternative of `body_encoding` accepts only a quote, one of the five keywords and a quote.
    The closing quote is the byte after the keyword: `"7BITS"` is left to the second alternative. -/
theorem quotedKw_first :
    First (encKeywords.map fun K => ⟨[34] ++ K, (· == 34)⟩) (do char 34; let e ← encKw; char 34; pure e) := by
  -- `kwThen` puts the keyword in front of the token's own (`K ++ []`); the table below evaluates to that shape
  have row (K : Bytes) (c : ContentEncoding) :
      First [⟨K ++ [], (· == 34)⟩] ((map (tagNoCase K) fun _ => c) >>= fun e => do char 34; pure e) :=
    .mapBind (.kwThen K (.bind (.char 34)) (by simp))
  have rows : First _ (encKw >>= fun e => do char 34; pure e) :=
    .altBind (row _ _) <| .altBind (row _ _) <| .altBind (row _ _) <| .altBind (row _ _) (row _ _)
  exact .charThen 34 rows (by simp)

theorem bodyEncoding_enc {v : ContentEncoding} {e : Bytes} (h : EncEncoding v e) : Parses bodyEncoding e v Any := by
  have kw (K : Bytes) (m : List Bool) (c : ContentEncoding)
      (hk : Parses encKw (spell K m) c Any) : Parses bodyEncoding ([34] ++ spell K m ++ [34]) c Any := by
    rw [List.append_assoc]
    exact .altL (.seq (char_ok 34) <| .seq hk <| (char_ok 34).last)
  have T := encKw_chain
  cases h with
  | sevenBit m => exact kw _ m _ (T.parses_kw0 rfl m _)
  | eightBit m => exact kw _ m _ (T.parses_kw0 rfl m _)
  | binary m => exact kw _ m _ (T.parses_kw0 rfl m _)
  | base64 m => exact kw _ m _ (T.parses_kw0 rfl m _)
  | quotedPrintable m => exact kw _ m _ (T.parses_kw0 rfl m _)
  | other s e hs hu hno =>
    refine .altR (.map (stringUtf8_enc hs hu)) fun rest _ => quotedKw_first _ fun t ht => ?_
    obtain ⟨K, hK, rfl⟩ := List.mem_map.1 ht
    exact Tok.misses_snoc (mismatch_plain _ e rest (hno K hK))

/-! ### body-fields -/

inductive EncFields : BodyFields → Bytes → Prop
  | mk (f : BodyFields) (ep eid edesc eenc eoct : Bytes) :
      EncParams f.param ep → EncNString f.id eid → (∀ s, f.id = some s → validUtf8 s = true) →
      EncNString f.description edesc → (∀ s, f.description = some s → validUtf8 s = true) →
      EncEncoding f.transferEncoding eenc → f.octets < 2 ^ 32 → EncNumber f.octets eoct →
      EncFields f (ep ++ b!" " ++ eid ++ b!" " ++ edesc ++ b!" " ++ eenc ++ b!" " ++ eoct)

theorem bodyFields_enc {f : BodyFields} {e : Bytes} (h : EncFields f e) :
    Parses bodyFields e f (Starts notDigit) := by
  cases h with
  | mk ep eid edesc eenc eoct hp hid huid hdesc hudesc henc hn hoct =>
    have sp := tag_ok (b!" ")
    simp only [List.append_assoc]
    exact .seq (bodyParam_enc hp) <| .seq sp <| .seq (nstringUtf8_enc hid huid) <| .seq sp <|
      .seq (nstringUtf8_enc hdesc hudesc) <| .seq sp <| .seq (bodyEncoding_enc henc) <| .seq sp <|
      (number_enc (2 ^ 32) hn hoct).last

/-! ### body-fld-lang -/

inductive EncLang : Option (List Bytes) → Bytes → Prop
  | nil (m : List Bool) : EncLang none (spell (b!"NIL") m)
  | one (s e : Bytes) : EncString s e → validUtf8 s = true → EncLang (some [s]) e
  | many (first : Bytes × Bytes) (others : List (Bytes × Bytes)) :
      (∀ x ∈ first :: others, EncString x.2 x.1 ∧ validUtf8 x.2 = true) →
      EncLang (some (first.2 :: others.map (·.2)))
        ([40] ++ (first.1 ++ (others.map fun x => [32] ++ x.1).flatten) ++ [41])

theorem bodyLang_enc {v : Option (List Bytes)} {e : Bytes} (h : EncLang v e) : Parses bodyLang e v Any := by
  cases h with
  | nil m => exact .altL (.map (v := none) (nstringUtf8_enc (.nil m) nofun))
  | one s e hs hu =>
    exact .altL (.map (v := some s) (nstringUtf8_enc (.some s e hs) fun _ h => Option.some.inj h ▸ hu))
  | many first others hall =>
    exact .altR
      (.map (parenthesizedNonemptyList_enc (R := fun v e => EncString v e ∧ validUtf8 v = true)
        (S := fun _ => true) (fun hv => (stringUtf8_enc hv.1 hv.2).any) rfl first others hall Any))
      fun rest _ => (First.map nstringUtf8_first).err_byte (by decide) _

/-! ### body-fld-dsp -/

inductive EncDisp : Option ContentDisposition → Bytes → Prop
  | nil (m : List Bool) : EncDisp none (spell (b!"NIL") m)
  | some (d : ContentDisposition) (ety ep : Bytes) : EncString d.ty ety → validUtf8 d.ty = true →
      EncParams d.params ep → EncDisp (some d) ([40] ++ (ety ++ b!" " ++ ep) ++ [41])

theorem bodyDisposition_enc {v : Option ContentDisposition} {e : Bytes} (h : EncDisp v e) :
    Parses bodyDisposition e v Any := by
  cases h with
  | nil m => exact .altL (.map (nil_enc m))
  | some d ety ep hty hu hp =>
    refine .altR (parenDelimited_enc ?_) fun rest _ => (First.map nil_first).err_byte (by decide) _
    rw [List.append_assoc]
    exact .seq (stringUtf8_enc hty hu) <| .seq (tag_ok _) <| (bodyParam_enc hp).any.last

/-! ### body-extension -/

inductive EncExt : Nat → BodyExtension → Bytes → Prop
  | num (n k : Nat) (e : Bytes) : k < 2 ^ 32 → EncNumber k e → EncExt (n + 1) (.num k) e
  | str (n : Nat) (v : Option Bytes) (e : Bytes) : EncNString v e → (∀ s, v = some s → validUtf8 s = true) →
      EncExt (n + 1) (.str v) e
  | list (n : Nat) (first : Bytes × BodyExtension) (others : List (Bytes × BodyExtension)) :
      (∀ x ∈ first :: others, EncExt n x.2 x.1) →
      EncExt (n + 1) (.list (first.2 :: others.map (·.2)))
        ([40] ++ (first.1 ++ (others.map fun x => [32] ++ x.1).flatten) ++ [41])

theorem bodyExtension_enc {n : Nat} {v : BodyExtension} {e : Bytes} (h : EncExt n v e) :
    Parses (bodyExtension n) e v (Starts notDigit) := by
  induction h with
  | num n k e hk he => exact .altL (.map (number_enc (2 ^ 32) hk he))
  | str n v e he hu =>
    refine .altR (.altL (.map (nstringUtf8_enc he hu).any)) fun rest _ => ?_
    exact (First.map (.number _)).err_oneOf ((encNString_head he).append rest) (by decide)
  | list n first others _ ih =>
    refine .altR (.altR (.map ?_) fun rest _ => ?_) fun rest _ => ?_
    · exact parenthesizedNonemptyList_enc (R := fun v e => Parses (bodyExtension n) e v (Starts notDigit))
        (fun h => h) (by decide) first others ih _
    · exact (First.map nstringUtf8_first).err_byte (by decide) _
    · exact (First.map (.number _)).err_byte (by decide) _

theorem encExt_mono (n : Nat) (v : BodyExtension) (e : Bytes) (h : EncExt n v e) : EncExt (n + 1) v e := by
  induction h with
  | num n k e hk he => exact .num _ k e hk he
  | str n v e he hu => exact .str _ v e he hu
  | list n first others _ ih => exact .list _ first others ih

/-- an optional `SP x`: the optional extension fields are such items, present up to some level and absent
    afterwards -/
def spItem {α : Type} (p : Parser (Option α)) : Parser (Option α) := optOpt (do tag (b!" "); p)

theorem spItem_absent {α : Type} (p : Parser (Option α)) : Parses (spItem p) [] none (Starts closeParen) :=
  .optOptNone fun _ hr => (First.bind (.tag _)).err_oneOf hr (by decide)

theorem optSp_absent {α : Type} (p : Parser α) : Parses (opt (do tag (b!" "); p)) [] none (Starts closeParen) :=
  .optAbsent (First.bind (.tag _)) (by decide)

theorem spItem_present {α : Type} {p : Parser (Option α)} {e : Bytes} {v : Option α} {F : Bytes → Prop}
    (hp : Parses p e v F) : Parses (spItem p) (b!" " ++ e) v F :=
  .optOptSome (.seq (tag_ok _) hp)

/-- `[SP dsp [SP lang [SP loc [SP extension]]]]`: what follows the first field of body-ext-1part and of
    body-ext-mpart -/
inductive EncExtTail (n : Nat) :
    Option ContentDisposition → Option (List Bytes) → Option Bytes → Option BodyExtension → Bytes → Prop
  | l0 : EncExtTail n none none none none []
  | l1 {d e2} : EncDisp d e2 → EncExtTail n d none none none (b!" " ++ e2)
  | l2 {d l e2 e3} : EncDisp d e2 → EncLang l e3 → EncExtTail n d l none none (b!" " ++ e2 ++ (b!" " ++ e3))
  | l3 {d l loc e2 e3 e4} : EncDisp d e2 → EncLang l e3 →
      EncNString loc e4 → (∀ s, loc = some s → validUtf8 s = true) →
      EncExtTail n d l loc none (b!" " ++ e2 ++ (b!" " ++ e3 ++ (b!" " ++ e4)))
  | l4 {d l loc x e2 e3 e4 e5} : EncDisp d e2 → EncLang l e3 →
      EncNString loc e4 → (∀ s, loc = some s → validUtf8 s = true) → EncExt n x e5 →
      EncExtTail n d l loc (some x) (b!" " ++ e2 ++ (b!" " ++ e3 ++ (b!" " ++ e4 ++ (b!" " ++ e5))))

theorem extTail_enc {β : Type} {n : Nat} {d : Option ContentDisposition} {l : Option (List Bytes)} {loc : Option Bytes}
    {x : Option BodyExtension} {e : Bytes} (h : EncExtTail n d l loc x e)
    {k : Option ContentDisposition → Option (List Bytes) → Option Bytes → Option BodyExtension → β} :
    Parses (do
        let disposition ← spItem bodyDisposition
        let language ← spItem bodyLang
        let location ← spItem nstringUtf8
        let extension ← opt (do tag (b!" "); bodyExtension n)
        pure (k disposition language location extension)) e (k d l loc x) (Starts closeParen) := by
  cases h with
  | l0 =>
    exact .bind_nil (spItem_absent _) <| .bind_nil (spItem_absent _) <| .bind_nil (spItem_absent _) <|
      (optSp_absent _).last
  | l1 h2 =>
    exact .bind_nil (spItem_present (bodyDisposition_enc h2).any) <| .bind_nil (spItem_absent _) <|
      .bind_nil (spItem_absent _) <| (optSp_absent _).last
  | l2 h2 h3 =>
    exact .seq (spItem_present (bodyDisposition_enc h2)) <|
      .bind_nil (spItem_present (bodyLang_enc h3).any) <| .bind_nil (spItem_absent _) <| (optSp_absent _).last
  | l3 h2 h3 h4 hu4 =>
    exact .seq (spItem_present (bodyDisposition_enc h2)) <| .seq (spItem_present (bodyLang_enc h3)) <|
      .bind_nil (spItem_present (nstringUtf8_enc h4 hu4).any) <| (optSp_absent _).last
  | l4 h2 h3 h4 hu4 h5 =>
    exact .seq (spItem_present (bodyDisposition_enc h2)) <| .seq (spItem_present (bodyLang_enc h3)) <|
      .seq (spItem_present (nstringUtf8_enc h4 hu4)) <|
      (Parses.optSome (.seq (tag_ok _) ((bodyExtension_enc h5).followOf (by decide)))).last

/-- body-ext-1part: md5 [dsp [lang [loc [extension]]]] -/
inductive EncExt1 (n : Nat) : BodyExt1Part → Bytes → Prop
  | l0 : EncExt1 n ⟨none, none, none, none, none⟩ []
  | l1 (md5 : Option Bytes) (e1 : Bytes) : EncNString md5 e1 → (∀ s, md5 = some s → validUtf8 s = true) →
      EncExt1 n ⟨md5, none, none, none, none⟩ (b!" " ++ e1)
  | l2 (md5 : Option Bytes) (d : Option ContentDisposition) (e1 e2 : Bytes) :
      EncNString md5 e1 → (∀ s, md5 = some s → validUtf8 s = true) → EncDisp d e2 →
      EncExt1 n ⟨md5, d, none, none, none⟩ (b!" " ++ e1 ++ (b!" " ++ e2))
  | l3 (md5 : Option Bytes) (d : Option ContentDisposition) (l : Option (List Bytes)) (e1 e2 e3 : Bytes) :
      EncNString md5 e1 → (∀ s, md5 = some s → validUtf8 s = true) → EncDisp d e2 → EncLang l e3 →
      EncExt1 n ⟨md5, d, l, none, none⟩ (b!" " ++ e1 ++ (b!" " ++ e2 ++ (b!" " ++ e3)))
  | l4 (md5 : Option Bytes) (d : Option ContentDisposition) (l : Option (List Bytes)) (loc : Option Bytes)
      (e1 e2 e3 e4 : Bytes) :
      EncNString md5 e1 → (∀ s, md5 = some s → validUtf8 s = true) → EncDisp d e2 → EncLang l e3 →
      EncNString loc e4 → (∀ s, loc = some s → validUtf8 s = true) →
      EncExt1 n ⟨md5, d, l, loc, none⟩ (b!" " ++ e1 ++ (b!" " ++ e2 ++ (b!" " ++ e3 ++ (b!" " ++ e4))))
  | l5 (md5 : Option Bytes) (d : Option ContentDisposition) (l : Option (List Bytes)) (loc : Option Bytes)
      (x : BodyExtension) (e1 e2 e3 e4 e5 : Bytes) :
      EncNString md5 e1 → (∀ s, md5 = some s → validUtf8 s = true) → EncDisp d e2 → EncLang l e3 →
      EncNString loc e4 → (∀ s, loc = some s → validUtf8 s = true) → EncExt n x e5 →
      EncExt1 n ⟨md5, d, l, loc, some x⟩
        (b!" " ++ e1 ++ (b!" " ++ e2 ++ (b!" " ++ e3 ++ (b!" " ++ e4 ++ (b!" " ++ e5)))))

theorem close_of_space (e r : Bytes) : Any (e ++ r) := trivial

/-- the optional fields are followed by the closing parenthesis, so a numeral in front of them is
    followed by their space or by that parenthesis -/
theorem encExt1_follow {n : Nat} {x : BodyExt1Part} {e r : Bytes} (h : EncExt1 n x e) (hr : Starts closeParen r) :
    Starts notDigit (e ++ r) := by
  cases h with
  | l0 => exact hr.of_oneOf (by decide)
  | _ => exact .cons (by decide) _

theorem bodyExt1Part_enc {n : Nat} {x : BodyExt1Part} {e : Bytes} (h : EncExt1 n x e) :
    Parses (bodyExt1Part n) e x (Starts closeParen) := by
  cases h with
  | l0 => exact .bind_nil (spItem_absent _) (extTail_enc .l0)
  | l1 md5 e1 h1 hu1 => exact .bind_nil (spItem_present (nstringUtf8_enc h1 hu1).any) (extTail_enc .l0)
  | l2 md5 d e1 e2 h1 hu1 h2 => exact .seq (spItem_present (nstringUtf8_enc h1 hu1)) (extTail_enc (.l1 h2))
  | l3 md5 d l e1 e2 e3 h1 hu1 h2 h3 =>
    exact .seq (spItem_present (nstringUtf8_enc h1 hu1)) (extTail_enc (.l2 h2 h3))
  | l4 md5 d l loc e1 e2 e3 e4 h1 hu1 h2 h3 h4 hu4 =>
    exact .seq (spItem_present (nstringUtf8_enc h1 hu1)) (extTail_enc (.l3 h2 h3 h4 hu4))
  | l5 md5 d l loc x e1 e2 e3 e4 e5 h1 hu1 h2 h3 h4 hu4 h5 =>
    exact .seq (spItem_present (nstringUtf8_enc h1 hu1)) (extTail_enc (.l4 h2 h3 h4 hu4 h5))

/-- body-ext-mpart: param [dsp [lang [loc [extension]]]] -/
inductive EncExtM (n : Nat) : BodyExtMPart → Bytes → Prop
  | l0 : EncExtM n ⟨none, none, none, none, none⟩ []
  | l1 (p : BodyParams) (e1 : Bytes) : EncParams p e1 → EncExtM n ⟨p, none, none, none, none⟩ (b!" " ++ e1)
  | l2 (p : BodyParams) (d : Option ContentDisposition) (e1 e2 : Bytes) :
      EncParams p e1 → EncDisp d e2 → EncExtM n ⟨p, d, none, none, none⟩ (b!" " ++ e1 ++ (b!" " ++ e2))
  | l3 (p : BodyParams) (d : Option ContentDisposition) (l : Option (List Bytes)) (e1 e2 e3 : Bytes) :
      EncParams p e1 → EncDisp d e2 → EncLang l e3 →
      EncExtM n ⟨p, d, l, none, none⟩ (b!" " ++ e1 ++ (b!" " ++ e2 ++ (b!" " ++ e3)))
  | l4 (p : BodyParams) (d : Option ContentDisposition) (l : Option (List Bytes)) (loc : Option Bytes)
      (e1 e2 e3 e4 : Bytes) :
      EncParams p e1 → EncDisp d e2 → EncLang l e3 →
      EncNString loc e4 → (∀ s, loc = some s → validUtf8 s = true) →
      EncExtM n ⟨p, d, l, loc, none⟩ (b!" " ++ e1 ++ (b!" " ++ e2 ++ (b!" " ++ e3 ++ (b!" " ++ e4))))
  | l5 (p : BodyParams) (d : Option ContentDisposition) (l : Option (List Bytes)) (loc : Option Bytes)
      (x : BodyExtension) (e1 e2 e3 e4 e5 : Bytes) :
      EncParams p e1 → EncDisp d e2 → EncLang l e3 →
      EncNString loc e4 → (∀ s, loc = some s → validUtf8 s = true) → EncExt n x e5 →
      EncExtM n ⟨p, d, l, loc, some x⟩
        (b!" " ++ e1 ++ (b!" " ++ e2 ++ (b!" " ++ e3 ++ (b!" " ++ e4 ++ (b!" " ++ e5)))))

theorem bodyExtMPart_enc {n : Nat} {x : BodyExtMPart} {e : Bytes} (h : EncExtM n x e) :
    Parses (bodyExtMPart n) e x (Starts closeParen) := by
  cases h with
  | l0 => exact .bind_nil (spItem_absent _) (extTail_enc .l0)
  | l1 p e1 h1 => exact .bind_nil (spItem_present (bodyParam_enc h1).any) (extTail_enc .l0)
  | l2 p d e1 e2 h1 h2 => exact .seq (spItem_present (bodyParam_enc h1)) (extTail_enc (.l1 h2))
  | l3 p d l e1 e2 e3 h1 h2 h3 => exact .seq (spItem_present (bodyParam_enc h1)) (extTail_enc (.l2 h2 h3))
  | l4 p d l loc e1 e2 e3 e4 h1 h2 h3 h4 hu4 =>
    exact .seq (spItem_present (bodyParam_enc h1)) (extTail_enc (.l3 h2 h3 h4 hu4))
  | l5 p d l loc x e1 e2 e3 e4 e5 h1 h2 h3 h4 hu4 h5 =>
    exact .seq (spItem_present (bodyParam_enc h1)) (extTail_enc (.l4 h2 h3 h4 hu4 h5))

theorem encExtM_head (n : Nat) (x : BodyExtMPart) (e : Bytes) (h : EncExtM n x e) :
    e = [] ∨ ∃ t, e = 32 :: t := by
  cases h with
  | l0 => exact Or.inl rfl
  | _ => exact Or.inr ⟨_, rfl⟩

/-! ### body -/

/-- a body structure nested at most `n` levels deep (the budget of `bodyNested`), with its wire form -/
inductive EncBody : Nat → BodyStructure → Bytes → Prop
  | text (n : Nat) (m : List Bool) (sub esub : Bytes) (f : BodyFields) (ef : Bytes) (lines : Nat) (el : Bytes)
      (x : BodyExt1Part) (ex : Bytes) :
      EncString sub esub → validUtf8 sub = true → EncFields f ef → lines < 2 ^ 32 → EncNumber lines el →
      EncExt1 (n + 1) x ex →
      EncBody (n + 1)
        (.text (mkCommon (b!"TEXT") sub f.param x.disposition x.language x.location) (mkOther f x.md5) lines
          x.extension)
        ([40] ++ (spell (b!"\"TEXT\"") m ++ (b!" " ++ (esub ++ (b!" " ++ (ef ++ (b!" " ++ (el ++ ex))))))) ++ [41])
  | message (n : Nat) (m : List Bool) (f : BodyFields) (ef : Bytes) (env : Envelope) (eenv : Bytes)
      (body : BodyStructure) (ebody : Bytes) (lines : Nat) (el : Bytes) (x : BodyExt1Part) (ex : Bytes) :
      EncFields f ef → EncEnvelope env eenv → EncBody n body ebody → lines < 2 ^ 32 → EncNumber lines el →
      EncExt1 (n + 1) x ex →
      EncBody (n + 1)
        (.message (mkCommon (b!"MESSAGE") (b!"RFC822") f.param x.disposition x.language x.location)
          (mkOther f x.md5) env body lines x.extension)
        ([40] ++ (spell (b!"\"MESSAGE\" \"RFC822\"") m ++ (b!" " ++ (ef ++ (b!" " ++ (eenv ++ (b!" " ++ (ebody ++
          (b!" " ++ (el ++ ex))))))))) ++ [41])
  | basic (n : Nat) (ty ety sub esub : Bytes) (f : BodyFields) (ef : Bytes) (x : BodyExt1Part) (ex : Bytes) :
      EncString ty ety → validUtf8 ty = true → EncString sub esub → validUtf8 sub = true → EncFields f ef →
      EncExt1 (n + 1) x ex →
      -- the media type, as spelled, is neither "TEXT" nor "MESSAGE" "RFC822" (those have their own forms)
      mismatch (b!"\"TEXT\"") (ety ++ b!" ") = true →
      mismatch (b!"\"MESSAGE\" \"RFC822\"") (ety ++ b!" " ++ esub ++ b!" ") = true →
      EncBody (n + 1)
        (.basic (mkCommon ty sub f.param x.disposition x.language x.location) (mkOther f x.md5) x.extension)
        ([40] ++ (ety ++ (b!" " ++ (esub ++ (b!" " ++ (ef ++ ex))))) ++ [41])
  | multipart (n : Nat) (first : Bytes × BodyStructure) (others : List (Bytes × BodyStructure))
      (sub esub : Bytes) (x : BodyExtMPart) (ex : Bytes) :
      (∀ c ∈ first :: others, EncBody n c.2 c.1) → EncString sub esub → validUtf8 sub = true →
      EncExtM (n + 1) x ex →
      EncBody (n + 1)
        (.multipart (mkCommon (b!"MULTIPART") sub x.param x.disposition x.language x.location)
          (first.2 :: others.map (·.2)) x.extension)
        ([40] ++ ((first.1 ++ (others.map (·.1)).flatten) ++ (b!" " ++ (esub ++ ex))) ++ [41])

theorem encBody_head {n : Nat} {v : BodyStructure} {e : Bytes} (h : EncBody n v e) : Starts (oneOf [40]) e := by
  cases h <;> exact .cons (by decide) _

/-- an encoding exists only under a positive budget, where the parser opens with the parenthesis -/
theorem bodyNested_first {n : Nat} {v : BodyStructure} {e : Bytes} (h : EncBody n v e) :
    First [.cls (· == 40)] (bodyNested n) := by
  cases h <;> exact .bind (.char 40)

/-- **body structures**: every encoding of a body structure within the nesting budget is read back
    exactly - every field of every part in its own slot, children in order -/
theorem bodyNested_enc {n : Nat} {v : BodyStructure} {e : Bytes} (h : EncBody n v e) :
    ∀ F : Bytes → Prop, Parses (bodyNested n) e v F := by
  induction h with
  | text n m sub esub f ef lines el x ex hsub husub hf hl hel hx =>
    refine fun F => parenDelimited_enc (.altL ?_)
    exact .kw m <| .seq (tag_ok _) <| .seq (stringUtf8_enc hsub husub) <| .seq (tag_ok _) <|
      .bindS (bodyFields_enc hf) (.cons (by decide) _) <| .seq (tag_ok _) <|
      .bind (hfollow := fun _ => encExt1_follow hx) (number_enc (2 ^ 32) hl hel) <|
      (bodyExt1Part_enc hx).last
  | message n m f ef env eenv body ebody lines el x ex hf henv _ hl hel hx ih =>
    refine fun F => parenDelimited_enc (.altR (.altL ?_) fun rest _ => ?_)
    · exact .kw m <| .seq (tag_ok _) <|
        .bindS (bodyFields_enc hf) (.cons (by decide) _) <| .seq (tag_ok _) <|
        .seq (envelope_enc henv Any) <| .seq (tag_ok _) <| .seq (ih Any) <| .seq (tag_ok _) <|
        .bind (hfollow := fun _ => encExt1_follow hx) (number_enc (2 ^ 32) hl hel) <|
        (bodyExt1Part_enc hx).last
    · rw [List.append_assoc]
      exact (First.bind (.tagNoCase _)).err_mismatch (by decide) m _
  | basic n ty ety sub esub f ef x ex hty huty hsub husub hf hx hnt hnm =>
    refine fun F => parenDelimited_enc (.altR (.altR (.altL ?_) fun rest _ => ?_) fun rest _ => ?_)
    · exact .seq (stringUtf8_enc hty huty) <| .seq (tag_ok _) <| .seq (stringUtf8_enc hsub husub) <|
        .seq (tag_ok _) <| .bind (hfollow := fun _ => encExt1_follow hx) (bodyFields_enc hf) <|
        (bodyExt1Part_enc hx).last
    · have := mismatch_plain _ _ (ef ++ (ex ++ rest)) hnm
      simp only [List.append_assoc] at this ⊢
      exact bind_err _ this
    · have := mismatch_plain _ _ (esub ++ (b!" " ++ (ef ++ (ex ++ rest)))) hnt
      simp only [List.append_assoc] at this ⊢
      exact bind_err _ this
  | multipart n first others sub esub x ex hall hsub husub hx ih =>
    -- the parts stand side by side: each begins with its parenthesis, the space before the subtype ends them
    have hhead (c) (hc : c ∈ first :: others) : Starts (oneOf [40]) c.1 := encBody_head (hall c hc)
    have parts := Parses.many1 (p := bodyNested n) (Starts (oneOf [40, 32])) (Starts (oneOf [32])) first others
      (fun c hc => ih c hc _)
      (fun c hc r => ((hhead c (by simp [hc])).append r).of_oneOf (by decide)) (fun _ hr => hr.of_oneOf (by decide))
      (fun _ hr => (bodyNested_first (hall first (by simp))).err_oneOf hr (by decide))
    have hopen (r : Bytes) :
        Starts (oneOf [40]) ((first.1 ++ (others.map (·.1)).flatten) ++ (b!" " ++ (esub ++ ex)) ++ r) :=
      (((hhead first (by simp)).append _).append _).append r
    refine fun F => parenDelimited_enc
      (.altR (.altR (.altR ?_ fun rest _ => ?_) fun rest _ => ?_) fun rest _ => ?_)
    · exact .bindS parts (.cons (by decide) _) <| .seq (tag_ok _) <| .seq (stringUtf8_enc hsub husub) <|
        (bodyExtMPart_enc hx).last
    · exact (First.bind (.mapRes string_first)).err_oneOf (hopen rest) (by decide)
    · exact (First.bind (.tagNoCase _)).err_oneOf (hopen rest) (by decide)
    · exact (First.bind (.tagNoCase _)).err_oneOf (hopen rest) (by decide)

/-- `body` = `bodyNested 33` (MAX_NESTING = 32 levels below the outermost) -/
theorem body_enc {v : BodyStructure} {e : Bytes} (h : EncBody 33 v e) (F : Bytes → Prop) : Parses body e v F :=
  bodyNested_enc h F

end RT
