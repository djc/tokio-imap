/-
  FIRST sets.  A `Tok` is one way an input can begin: a keyword (letters in either case, possibly empty)
  followed by a byte of a class; `First hs p` says that on an input that begins in none of the ways `hs` (heads)
  the parser `p` answers Error.  One lemma per combinator; decidable tests that a spelling of a keyword, a
  byte, a digit does not begin in a given way.  `Chain P rows` is `alt p₁ (alt p₂ (… pₙ))` with a FIRST set
  per alternative: the statement of a chain theorem is the dispatch table of that production.
  (Inside `namespace First` a combinator that has a lemma there is written `Parser.tagNoCase`.)
-/
import ImapVerif.Proofs.RT.Core

open Bytes Parser Grammar

namespace RT

structure Tok where
  kw : Bytes
  next : UInt8 → Bool

abbrev Tok.word (t : Bytes) : Tok := ⟨t, fun _ => true⟩
abbrev Tok.cls (C : UInt8 → Bool) : Tok := ⟨[], C⟩

/-- stronger than "does not begin this way": an input that ends inside the keyword, or right after it, misses
    nothing (`tagNoCase` answers Incomplete there) -/
def Tok.Misses (t : Tok) (i : Bytes) : Prop :=
  tagNoCase t.kw i = .err ∨ ∃ x r, tagNoCase t.kw i = .ok () (x :: r) ∧ t.next x = false

def First {α : Type} (hs : List Tok) (p : Parser α) : Prop := ∀ i, (∀ t ∈ hs, t.Misses i) → p i = .err

def Tok.missKw (u : Bytes) (t : Tok) : Bool :=
  mismatch t.kw u ||
    match u.drop t.kw.length with
    | [] => false
    | c :: _ => !t.next c && !t.next (flipCase c)

def Tok.missByte (x : UInt8) (t : Tok) : Bool :=
  match t.kw with
  | [] => !t.next x
  | c :: _ => lower c != lower x

def Tok.missDigit (t : Tok) : Bool :=
  match t.kw with
  | [] => false
  | c :: _ => !isDigit (lower c)

theorem tagNoCase_prefix (t u : Bytes) (m : List Bool) (r : Bytes) (h : mismatch t u = false)
    (hl : t.length ≤ u.length) :
    tagNoCase t (spell u m ++ r) = .ok () (spell (u.drop t.length) (m.drop t.length) ++ r) := by
  induction t generalizing u m with
  | nil => rfl
  | cons a t ih =>
    cases u with
    | nil => cases hl
    | cons b u =>
      simp only [mismatch] at h
      split at h
      next heq =>
        rw [tagNoCase_spell_cons, if_pos heq, ih u m.tail h (Nat.le_of_succ_le_succ hl)]
        cases m <;> simp
      · cases h

theorem Tok.missKw_misses {t : Tok} {u : Bytes} (hm : t.missKw u = true) (m : List Bool) (r : Bytes) :
    t.Misses (spell u m ++ r) := by
  unfold Tok.missKw at hm
  cases hmm : mismatch t.kw u with
  | true => exact Or.inl (tagNoCase_mismatch t.kw u m r hmm)
  | false =>
    rw [hmm, Bool.false_or] at hm
    split at hm
    · cases hm
    next c u' hdrop =>
      have hl : t.kw.length ≤ u.length := by
        have := congrArg List.length hdrop
        simp at this; omega
      obtain ⟨c', hc', hcc⟩ := spell_cons c u' (m.drop t.kw.length)
      refine Or.inr ⟨c', spell u' (m.drop t.kw.length).tail ++ r, ?_, ?_⟩
      · rw [tagNoCase_prefix t.kw u m r hmm hl, hdrop, hc']; rfl
      · simp only [Bool.and_eq_true, Bool.not_eq_true'] at hm
        rcases hcc with rfl | rfl
        · exact hm.1
        · exact hm.2

theorem Tok.missByte_misses {t : Tok} {x : UInt8} (hm : t.missByte x = true) (r : Bytes) : t.Misses (x :: r) := by
  unfold Tok.missByte at hm
  split at hm
  next hk =>
    exact Or.inr ⟨x, r, by simp [hk, Parser.tagNoCase, tagGo], by simpa using hm⟩
  next c u hk =>
    have hx : (lower c == lower x) = false := by simpa using hm
    exact Or.inl (by simp [hk, Parser.tagNoCase, tagGo, hx])

theorem Tok.missDigit_misses {t : Tok} (hm : t.missDigit = true) {i : Bytes} (hi : Starts isDigit i) : t.Misses i := by
  obtain ⟨d, r, rfl, hd⟩ := hi
  refine Tok.missByte_misses ?_ r
  unfold Tok.missDigit at hm
  unfold Tok.missByte
  split at hm
  · cases hm
  · -- a digit is its own lower-case form, and the keyword's first letter is not a digit
    simpa [lower_digit d hd] using ne_of_class hd (by simpa using hm)

namespace First
variable {α β : Type} {hs hs' : List Tok} {p q : Parser α}

theorem tagNoCase (t : Bytes) : First [.word t] (tagNoCase t) := fun _ h =>
  (h (.word t) (List.mem_singleton.2 rfl)).elim id fun ⟨_, _, _, hx⟩ => Bool.noConfusion hx

theorem tag (t : Bytes) : First [.word t] (tag t) := fun i h =>
  (tag_refines t i).elim id fun e => e.trans (tagNoCase t i h)

theorem cls_misses {C : UInt8 → Bool} {i : Bytes} (h : ∀ t ∈ [Tok.cls C], t.Misses i) :
    ∃ x r, i = x :: r ∧ C x = false := by
  rcases h (.cls C) (List.mem_singleton.2 rfl) with h | ⟨x, r, h, hx⟩
  · simp [Parser.tagNoCase, tagGo] at h
  · exact ⟨x, r, by simpa [Parser.tagNoCase, tagGo] using h, hx⟩

theorem char (c : UInt8) : First [.cls (· == c)] (char c) := by
  intro i h
  obtain ⟨x, r, rfl, hx⟩ := cls_misses h
  exact char_err c x r hx

theorem takeWhile1 (f : UInt8 → Bool) : First [.cls f] (takeWhile1 f) := by
  intro i h
  obtain ⟨x, r, rfl, hx⟩ := cls_misses h
  simp [Parser.takeWhile1, hx]

theorem bind (h : First hs p) {f : α → Parser β} : First hs (p >>= f) := fun i hi => bind_err _ (h i hi)

theorem map (h : First hs p) {g : α → β} : First hs (map p g) := fun i hi => map_err _ (h i hi)

theorem mapRes (h : First hs p) {g : α → Option β} : First hs (mapRes p g) := fun i hi => mapRes_err _ (h i hi)

theorem alt (hp : First hs p) (hq : First hs' q) : First (hs ++ hs') (alt p q) := by
  intro i hi
  unfold Parser.alt
  rw [hp i fun h hh => hi h (List.mem_append_left _ hh)]
  exact hq i fun h hh => hi h (List.mem_append_right _ hh)

/-- what `alt p q >>= f` can begin with is decided alternative by alternative, although the bind does not
    distribute over `alt`: if `p` succeeds and `f` then fails, `q` is not tried -/
theorem altBind {f : α → Parser β} (hp : First hs (p >>= f)) (hq : First hs' (q >>= f)) :
    First (hs ++ hs') (Parser.alt p q >>= f) := by
  intro i hi
  have h1 : Parser.bindP p f i = .err := hp i fun t ht => hi t (List.mem_append_left _ ht)
  have h2 : Parser.bindP q f i = .err := hq i fun t ht => hi t (List.mem_append_right _ ht)
  show Parser.bindP (Parser.alt p q) f i = .err
  unfold Parser.bindP Parser.alt
  unfold Parser.bindP at h1 h2
  cases hpi : p i with
  | err => exact h2
  | ok | inc | fail | panic => rw [hpi] at h1; exact h1

theorem mapBind {γ : Type} {g : α → β} {f : β → Parser γ}
    (h : First hs (p >>= fun a => f (g a))) : First hs (Parser.map p g >>= f) := by
  intro i hi
  have h1 : Parser.bindP p (fun a => f (g a)) i = .err := h i hi
  show Parser.bindP (Parser.map p g) f i = .err
  unfold Parser.bindP Parser.map
  unfold Parser.bindP at h1
  cases hpi : p i with
  | err => rfl
  | ok | inc | fail | panic => rw [hpi] at h1; exact h1

/-- `hp` lets `p` be `tag t` or `tagNoCase t`.  `hs ≠ []`: on an input that ends inside the keyword `p` answers
    Incomplete, which an empty FIRST set would claim to be an Error -/
theorem kwThenOf (t : Bytes) {p : Parser Unit} (hp : ∀ i, p i = .err ∨ p i = Parser.tagNoCase t i) {q : Parser β}
    (h : First hs q) (hne : hs ≠ []) :
    First (hs.map fun k => ⟨t ++ k.kw, k.next⟩) (p >>= fun _ => q) := by
  intro i hi
  have key : ∀ k ∈ hs, Tok.Misses ⟨t ++ k.kw, k.next⟩ i := fun k hk => hi _ (List.mem_map.2 ⟨k, hk, rfl⟩)
  simp only [Tok.Misses, Parser.tagNoCase, tagGo_append] at key
  rcases hp i with hp | hp
  · exact bind_err _ hp
  show Parser.bindP p _ i = .err
  unfold Parser.bindP at *
  rw [hp]
  unfold Parser.tagNoCase
  cases ht : tagGo (fun a b => lower a == lower b) t i with
  | ok _ r => exact h r fun k hk => by simpa [ht, Tok.Misses, Parser.tagNoCase] using key k hk
  | err => rfl
  | inc | fail | panic =>
    obtain ⟨k, hk⟩ := List.exists_mem_of_ne_nil hs hne
    simpa [ht] using key k hk

theorem kwThen (t : Bytes) {q : Parser β} (h : First hs q) (hne : hs ≠ []) :
    First (hs.map fun k => ⟨t ++ k.kw, k.next⟩) (Parser.tagNoCase t >>= fun _ => q) :=
  kwThenOf t (fun _ => .inr rfl) h hne

theorem charThen (c : UInt8) {q : Parser β} (h : First hs q) (hne : hs ≠ []) :
    First (hs.map fun k => ⟨c :: k.kw, k.next⟩) (Parser.char c >>= fun _ => q) :=
  Parser.char_eq c ▸ kwThenOf [c] (tag_refines [c]) h hne

theorem number (bound : Nat) : First [.cls isDigit] (numberB bound) := (takeWhile1 isDigit).mapRes

theorem space1 : First [.cls isSpace] space1 := by
  rw [space1_eq]
  exact (takeWhile1 isSpace).map

theorem err_kw (h : First hs p) {u : Bytes} (hm : hs.all (Tok.missKw u) = true) (m : List Bool) (r : Bytes) :
    p (spell u m ++ r) = .err :=
  h _ fun t ht => Tok.missKw_misses (List.all_eq_true.1 hm t ht) m r

theorem err_mismatch {t u : Bytes} (h : First [.word t] p) (hm : mismatch t u = true) (m : List Bool) (r : Bytes) :
    p (spell u m ++ r) = .err :=
  h.err_kw (by simp [Tok.missKw, hm]) m r

theorem err_byte (h : First hs p) {x : UInt8} (hm : hs.all (Tok.missByte x) = true) (r : Bytes) :
    p (x :: r) = .err :=
  h _ fun t ht => Tok.missByte_misses (List.all_eq_true.1 hm t ht) r

theorem err_digit (h : First hs p) (hm : hs.all Tok.missDigit = true) {i : Bytes} (hi : Starts isDigit i) : p i = .err :=
  h _ fun t ht => Tok.missDigit_misses (List.all_eq_true.1 hm t ht) hi

theorem err_starts (h : First hs p) {D : UInt8 → Bool} {i : Bytes} (hi : Starts D i)
    (hD : ∀ x, D x = true → hs.all (Tok.missByte x) = true) : p i = .err := by
  obtain ⟨c, t, rfl, hc⟩ := hi
  exact h.err_byte (hD c hc) t

theorem err_oneOf (h : First hs p) {bs : List UInt8} {i : Bytes} (hi : Starts (oneOf bs) i)
    (hbs : (bs.all fun x => hs.all (Tok.missByte x)) = true) : p i = .err :=
  h.err_starts hi fun x hx => List.all_eq_true.1 hbs x (List.contains_iff_mem.1 hx)

theorem err_compl {f : UInt8 → Bool} (h : First [.cls f] p) {i : Bytes} (hi : Starts (fun c => !f c) i) :
    p i = .err :=
  h.err_starts hi fun x hx => by simpa [Tok.missByte] using hx

end First

theorem Parses.optAbsent {α : Type} {p : Parser α} {hs : List Tok} (hp : First hs p) {bs : List UInt8}
    (hbs : (bs.all fun x => hs.all (Tok.missByte x)) = true) : Parses (opt p) [] none (Starts (oneOf bs)) :=
  .optNone fun _ hr => hp.err_oneOf hr hbs

/-- the last byte of a keyword may be read as the byte that follows the keyword -/
theorem Tok.misses_snoc {K : Bytes} {c : UInt8} {i : Bytes} (h : tagNoCase (K ++ [c]) i = .err) :
    Tok.Misses ⟨K, (· == c)⟩ i := by
  unfold Parser.tagNoCase at h
  rw [tagGo_append] at h
  unfold Parser.bindP at h
  cases hk : tagGo (fun a b => lower a == lower b) K i with
  | err => exact Or.inl hk
  | ok _ r =>
    rw [hk] at h
    cases r with
    | nil => simp [tagGo] at h
    | cons x r =>
      refine Or.inr ⟨x, r, hk, ?_⟩
      cases hx : x == c
      · exact hx
      · rw [eq_of_beq hx] at h
        simp [tagGo] at h
  | inc | fail | panic => rw [hk] at h; cases h

inductive Chain {α : Type} : Parser α → List (List Tok × Parser α) → Prop
  | one {hs p} : First hs p → Chain p [(hs, p)]
  | cons {hs p q rows} : First hs p → Chain q rows → Chain (alt p q) ((hs, p) :: rows)

/-- the row a spelling of the keyword `u` goes to: the first whose FIRST set does not exclude it -/
def kwRow {α : Type} (rows : List (List Tok × Parser α)) (u : Bytes) : Nat :=
  rows.findIdx fun row => !row.1.all (Tok.missKw u)

namespace Chain
variable {α : Type} {P : Parser α} {rows : List (List Tok × Parser α)}

theorem first (c : Chain P rows) : First (rows.flatMap (·.1)) P := by
  induction c with
  | one h => simpa using h
  | cons h _ ih => simpa using h.alt ih

theorem row_first (c : Chain P rows) : ∀ row ∈ rows, First row.1 row.2 := by
  induction c with
  | one h => intro row hrow; rw [List.mem_singleton.1 hrow]; exact h
  | cons h _ ih =>
    intro row hrow
    rcases List.mem_cons.1 hrow with rfl | hrow
    · exact h
    · exact ih row hrow

theorem parses_at (c : Chain P rows) (k : Nat) {hs : List Tok} {p : Parser α} (hk : rows[k]? = some (hs, p))
    {e : Bytes} {v : α} {F : Bytes → Prop}
    (hrej : ∀ rest, F rest → ∀ row ∈ rows.take k, row.2 (e ++ rest) = .err)
    (hp : Parses p e v F) : Parses P e v F := by
  induction c generalizing k with
  | one h =>
    cases k with
    | zero => cases hk; exact hp
    | succ k => simp at hk
  | @cons hs₀ p₀ q rows h _ ih =>
    cases k with
    | zero => cases hk; exact Parses.altL hp
    | succ k =>
      exact Parses.altR (ih k (by simpa using hk) fun rest hr row hrow => hrej rest hr row (by simp [hrow]))
        fun rest hr => hrej rest hr (hs₀, p₀) (by simp)

theorem parses_of (c : Chain P rows) (k : Nat) {hs : List Tok} {p : Parser α} (hk : rows[k]? = some (hs, p))
    (miss : Tok → Bool) {e : Bytes} {v : α} {F : Bytes → Prop}
    (hmiss : ∀ rest, F rest → ∀ t, miss t = true → t.Misses (e ++ rest))
    (hrej : ∀ rest, F rest → ∀ row ∈ (rows.take k).filter (fun row => !row.1.all miss), row.2 (e ++ rest) = .err)
    (hp : Parses p e v F) : Parses P e v F := by
  refine c.parses_at k hk (fun rest hr row hrow => ?_) hp
  cases hm : row.1.all miss with
  | true =>
    exact c.row_first row (List.mem_of_mem_take hrow) _ fun t ht => hmiss rest hr t (List.all_eq_true.1 hm t ht)
  | false => exact hrej rest hr row (List.mem_filter.2 ⟨hrow, by simp [hm]⟩)

/-- for a concrete table the rows `hrej` ranges over are found by evaluating the filter; where none is left `hrej`
    is closed by `nomatch` -/
theorem parses_digit (c : Chain P rows) (k : Nat) {hs : List Tok} {p : Parser α} (hk : rows[k]? = some (hs, p))
    {e : Bytes} {v : α} {F : Bytes → Prop} (he : Starts isDigit e)
    (hrej : ∀ rest, F rest → ∀ row ∈ (rows.take k).filter (fun row => !row.1.all Tok.missDigit),
      row.2 (e ++ rest) = .err)
    (hp : Parses p e v F) : Parses P e v F :=
  c.parses_of k hk Tok.missDigit (fun _ _ _ ht => Tok.missDigit_misses ht (he.append _)) hrej hp

/-- dispatch on a keyword that an earlier row shares (METADATA) -/
theorem parses_kw_or (c : Chain P rows) (k : Nat) {hs : List Tok} {p : Parser α} (hk : rows[k]? = some (hs, p))
    {u : Bytes} {m : List Bool} {tail : Bytes} {v : α} {F : Bytes → Prop}
    (hrej : ∀ rest, F rest → ∀ row ∈ (rows.take k).filter (fun row => !row.1.all (Tok.missKw u)),
      row.2 (spell u m ++ tail ++ rest) = .err)
    (hp : Parses p (spell u m ++ tail) v F) : Parses P (spell u m ++ tail) v F :=
  c.parses_of k hk (Tok.missKw u) (fun _ _ _ ht => List.append_assoc .. ▸ Tok.missKw_misses ht m _) hrej hp

/-- a spelling of the keyword `u` goes to the first row whose FIRST set does not exclude it (for a concrete table
    `hk` is `rfl`: it evaluates `kwRow`, and shows the row found when that is not the row meant) -/
theorem parses_kw (c : Chain P rows) {u : Bytes} {hs : List Tok} {p : Parser α} (hk : rows[kwRow rows u]? = some (hs, p))
    {m : List Bool} {tail : Bytes} {v : α} {F : Bytes → Prop}
    (hp : Parses p (spell u m ++ tail) v F) : Parses P (spell u m ++ tail) v F := by
  refine c.parses_kw_or _ hk (fun _ _ row hrow => ?_) hp
  obtain ⟨hmem, hnot⟩ := List.mem_filter.1 hrow
  obtain ⟨i, hi, rfl⟩ := List.getElem_of_mem hmem
  rw [List.length_take] at hi
  rw [List.getElem_take, List.not_of_lt_findIdx (Nat.lt_of_lt_of_le hi (Nat.min_le_left ..))] at hnot
  cases hnot

theorem parses_kw0 (c : Chain P rows) {hs : List Tok} {u : Bytes} {v : α}
    (hk : rows[kwRow rows u]? = some (hs, Parser.map (Parser.tagNoCase u) fun _ => v)) (m : List Bool)
    (F : Bytes → Prop) : Parses P (spell u m) v F := by
  have := c.parses_kw hk (m := m) (tail := []) (F := F) (by simpa using kwOnly_enc u v m F)
  simpa using this

theorem err (c : Chain P rows) {i : Bytes} (h : ∀ row ∈ rows, row.2 i = .err) : P i = .err := by
  induction c with
  | @one hs₀ p₀ _ => exact h (hs₀, p₀) (by simp)
  | @cons hs₀ p₀ q rows _ _ ih =>
    have h0 : p₀ i = .err := h (hs₀, p₀) List.mem_cons_self
    unfold Parser.alt
    rw [h0]
    exact ih fun row hrow => h row (by simp [hrow])

theorem err_of (c : Chain P rows) {i : Bytes} (miss : Tok → Bool) (hmiss : ∀ t, miss t = true → t.Misses i)
    (h : ∀ row ∈ rows.filter (fun row => !row.1.all miss), row.2 i = .err) : P i = .err := by
  refine c.err fun row hrow => ?_
  cases hm : row.1.all miss with
  | true => exact c.row_first row hrow _ fun t ht => hmiss t (List.all_eq_true.1 hm t ht)
  | false => exact h row (List.mem_filter.2 ⟨hrow, by simp [hm]⟩)

theorem err_digit (c : Chain P rows) {i : Bytes} (hi : Starts isDigit i)
    (h : ∀ row ∈ rows.filter (fun row => !row.1.all Tok.missDigit), row.2 i = .err) : P i = .err :=
  c.err_of Tok.missDigit (fun _ ht => Tok.missDigit_misses ht hi) h

/-- the row of `u` rejects the spelling for a reason of its own, and no other row can begin it -/
theorem err_kw_but (c : Chain P rows) {u : Bytes} {hs : List Tok} {p : Parser α} (hk : rows[kwRow rows u]? = some (hs, p))
    (hm : ((rows.eraseIdx (kwRow rows u)).all fun row => row.1.all (Tok.missKw u)) = true)
    {m : List Bool} {r : Bytes} (hp : p (spell u m ++ r) = .err) : P (spell u m ++ r) = .err := by
  generalize kwRow rows u = k at hk hm
  refine c.err fun row hrow => ?_
  obtain ⟨i, hi⟩ := List.mem_iff_getElem?.1 hrow
  by_cases hik : i = k
  · obtain rfl : (hs, p) = row := Option.some.inj (hk.symm.trans (hik ▸ hi))
    exact hp
  · exact (c.row_first row hrow).err_kw
      (List.all_eq_true.1 hm row (List.mem_eraseIdx_iff_getElem?.2 ⟨i, hik, hi⟩)) m r

end Chain

end RT
