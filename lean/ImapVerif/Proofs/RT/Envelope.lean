/-
  Round-trip for `address`, `opt_addresses` and `envelope` of rfc3501/mod.rs: the four nstrings of an
  address, address lists with the tolerated space after each address, the ten fields of the envelope.
-/
import ImapVerif.Proofs.RT.Leaf

open Bytes Parser Grammar

namespace RT

/-! ### address -/

/-- an address structure: four nstrings in parentheses -/
inductive EncAddress : Address → Bytes → Prop
  | mk (a : Address) (e1 e2 e3 e4 : Bytes) :
      EncNString a.name e1 → EncNString a.adl e2 → EncNString a.mailbox e3 → EncNString a.host e4 →
      EncAddress a ([40] ++ (e1 ++ b!" " ++ e2 ++ b!" " ++ e3 ++ b!" " ++ e4) ++ [41])

theorem address_enc (a : Address) (e : Bytes) (h : EncAddress a e) (F : Bytes → Prop) :
    Parses address e a F := by
  cases h with
  | mk e1 e2 e3 e4 h1 h2 h3 h4 =>
    have sp := tag_ok (b!" ")
    refine parenDelimited_enc ?_
    simp only [List.append_assoc]
    exact .seq (nstring_enc _ _ h1) <| .seq sp <| .seq (nstring_enc _ _ h2) <| .seq sp <|
      .seq (nstring_enc _ _ h3) <| .seq sp <| (nstring_enc _ _ h4).any.last

theorem encAddress_head {a : Address} {e : Bytes} (h : EncAddress a e) : Starts (oneOf [40]) e := by
  cases h
  exact .cons (by decide) _

theorem address_first : First [.cls (· == 40)] address := .bind (.char 40)

def addrItem : Parser Address := do let a ← address; let _ ← opt (char 32); pure a

/-- after an element of an address list comes the next address or the end of the list; neither is
    the optional space -/
theorem addrItem_enc {a : Address} {e : Bytes} (h : EncAddress a e) (sp : Bool) :
    Parses addrItem (e ++ (if sp then [32] else [])) a (Starts (oneOf [40, 41])) := by
  refine .seq (address_enc a e h Any) ?_
  cases sp with
  | true => exact (Parses.optSome (char_ok 32)).any.last
  | false => exact (Parses.optAbsent (First.char 32) (by decide)).last

/-- "(" 1*address ")" / nil, with the tolerated optional space after each address -/
inductive EncAddresses : Option (List Address) → Bytes → Prop
  | nil (m : List Bool) : EncAddresses none (spell (b!"NIL") m)
  | some (first : Address × Bytes × Bool) (others : List (Address × Bytes × Bool)) :
      (∀ x ∈ first :: others, EncAddress x.1 x.2.1) →
      EncAddresses (some (first.1 :: others.map (·.1)))
        ([40] ++ ((first.2.1 ++ (if first.2.2 then [32] else [])) ++
          (others.map fun x => x.2.1 ++ (if x.2.2 then [32] else [])).flatten) ++ [41])

theorem optAddresses_enc {v : Option (List Address)} {e : Bytes} (h : EncAddresses v e) (F : Bytes → Prop) :
    Parses optAddresses e v F := by
  cases h with
  | nil m => exact .altL (.map (nil_enc m).any)
  | some first others hall =>
    refine .altR (.map (parenDelimited_enc ?_)) fun rest _ => (First.map nil_first).err_byte (by decide) _
    have key := Parses.many1 (p := addrItem) (Starts (oneOf [40, 41])) (Starts closeParen)
      (first.2.1 ++ (if first.2.2 then [32] else []), first.1)
      (others.map fun x => (x.2.1 ++ (if x.2.2 then [32] else []), x.1))
      ?_ ?_ (fun _ hr => hr.of_oneOf (by decide)) (fun _ hr => (First.bind address_first).err_oneOf hr (by decide))
    · simpa only [addrItem, List.map_map, Function.comp_def] using key
    · exact List.forall_mem_cons.2 ⟨addrItem_enc (hall first (by simp)) _,
        List.forall_mem_map.2 fun x hx => addrItem_enc (hall x (by simp [hx])) _⟩
    · exact List.forall_mem_map.2 fun x hx r =>
        (((encAddress_head (hall x (by simp [hx]))).append _).append r).of_oneOf (by decide)

/-! ### envelope -/

/-- the envelope: ten fields in fixed positions -/
inductive EncEnvelope : Envelope → Bytes → Prop
  | mk (v : Envelope) (e1 e2 e3 e4 e5 e6 e7 e8 e9 e10 : Bytes) :
      EncNString v.date e1 → EncNString v.subject e2 → EncAddresses v.from_ e3 →
      EncAddresses v.sender e4 → EncAddresses v.replyTo e5 → EncAddresses v.to e6 →
      EncAddresses v.cc e7 → EncAddresses v.bcc e8 → EncNString v.inReplyTo e9 →
      EncNString v.messageId e10 →
      EncEnvelope v ([40] ++ (e1 ++ b!" " ++ e2 ++ b!" " ++ e3 ++ b!" " ++ e4 ++ b!" " ++ e5 ++ b!" " ++ e6 ++
        b!" " ++ e7 ++ b!" " ++ e8 ++ b!" " ++ e9 ++ b!" " ++ e10) ++ [41])

/-- **envelope fidelity**: every field lands in its own slot, whatever the spelling of each -/
theorem envelope_enc {v : Envelope} {e : Bytes} (h : EncEnvelope v e) (F : Bytes → Prop) :
    Parses envelope e v F := by
  cases h with
  | mk e1 e2 e3 e4 e5 e6 e7 e8 e9 e10 h1 h2 h3 h4 h5 h6 h7 h8 h9 h10 =>
    have sp := tag_ok (b!" ")
    refine parenDelimited_enc ?_
    simp only [List.append_assoc]
    exact .seq (nstring_enc _ _ h1) <| .seq sp <| .seq (nstring_enc _ _ h2) <| .seq sp <|
      .seq (optAddresses_enc h3 Any) <| .seq sp <| .seq (optAddresses_enc h4 Any) <| .seq sp <|
      .seq (optAddresses_enc h5 Any) <| .seq sp <| .seq (optAddresses_enc h6 Any) <| .seq sp <|
      .seq (optAddresses_enc h7 Any) <| .seq sp <| .seq (optAddresses_enc h8 Any) <| .seq sp <|
      .seq (nstring_enc _ _ h9) <| .seq sp <| (nstring_enc _ _ h10).any.last

end RT
