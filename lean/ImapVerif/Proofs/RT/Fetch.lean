/-
  Round-trip for FETCH responses (rfc3501/mod.rs): the fetch attributes (msg-att), the attribute list
  and `n FETCH (...)`.
-/
import ImapVerif.Proofs.RT.Body
import ImapVerif.Proofs.RT.Section
import ImapVerif.Proofs.RT.Tables

open Bytes Parser Grammar

namespace RT

/-! ### attributes -/

/-- the wire forms of the fetch attributes (keyword in any letter case) -/
inductive EncAttr : AttributeValue → Bytes → Prop
  | envelope (m : List Bool) (v : Envelope) (e : Bytes) : EncEnvelope v e →
      EncAttr (.envelope v) (spell (b!"ENVELOPE ") m ++ e)
  | internalDate (m : List Bool) (s e : Bytes) : EncString s e → validUtf8 s = true →
      EncAttr (.internalDate s) (spell (b!"INTERNALDATE ") m ++ e)
  | modSeq (m : List Bool) (n : Nat) (e : Bytes) : n < 2 ^ 64 → EncNumber n e →
      EncAttr (.modSeq n) (spell (b!"MODSEQ ") m ++ ([40] ++ e ++ [41]))
  | rfc822 (m : List Bool) (v : Option Bytes) (e : Bytes) : EncNString v e →
      EncAttr (.rfc822 v) (spell (b!"RFC822 ") m ++ e)
  | rfc822Header (m : List Bool) (v : Option Bytes) (e : Bytes) (extraSpace : Bool) : EncNString v e →
      EncAttr (.rfc822Header v) (spell (b!"RFC822.HEADER ") m ++ ((if extraSpace then [32] else []) ++ e))
  | rfc822Size (m : List Bool) (n : Nat) (e : Bytes) : n < 2 ^ 32 → EncNumber n e →
      EncAttr (.rfc822Size n) (spell (b!"RFC822.SIZE ") m ++ e)
  | rfc822Text (m : List Bool) (v : Option Bytes) (e : Bytes) : EncNString v e →
      EncAttr (.rfc822Text v) (spell (b!"RFC822.TEXT ") m ++ e)
  | uid (m : List Bool) (n : Nat) (e : Bytes) : n < 2 ^ 32 → EncNumber n e →
      EncAttr (.uid n) (spell (b!"UID ") m ++ e)
  | gmailMsgId (m : List Bool) (n : Nat) (e : Bytes) : n < 2 ^ 64 → EncNumber n e →
      EncAttr (.gmailMsgId n) (spell (b!"X-GM-MSGID ") m ++ e)
  | bodySection (m : List Bool) (sect : Option SectionPath) (es : Bytes) (idx : Option Nat) (eo : Bytes)
      (data : Option Bytes) (ed : Bytes) : EncSection sect es → EncOrigin idx eo → EncNString data ed →
      EncAttr (.bodySection sect idx data) (spell (b!"BODY") m ++ (es ++ (eo ++ (b!" " ++ ed))))
  | bodyStructure (m : List Bool) (b : BodyStructure) (e : Bytes) : EncBody 33 b e →
      EncAttr (.bodyStructure b) (spell (b!"BODYSTRUCTURE ") m ++ e)
  /-- the non-extensible form `BODY (...)` yields the same value kind -/
  | body (m : List Bool) (b : BodyStructure) (e : Bytes) : EncBody 33 b e →
      EncAttr (.bodyStructure b) (spell (b!"BODY ") m ++ e)
  | flags (m : List Bool) (vs : List Bytes) (e : Bytes) : EncList EncFlagPerm vs e →
      EncAttr (.flags vs) (spell (b!"FLAGS ") m ++ e)
  | gmailLabels (m : List Bool) (vs : List Bytes) (e : Bytes) : EncList EncLabel vs e →
      EncAttr (.gmailLabels vs) (spell (b!"X-GM-LABELS ") m ++ e)

/-- an attribute ends in a numeral, a string, a parenthesis or NIL: nothing but a digit may not follow -/
theorem msgAtt_enc {v : AttributeValue} {e : Bytes} (h : EncAttr v e) :
    Parses msgAtt e v (Starts notDigit) := by
  have T := msgAtt_chain
  cases h with
  | bodySection m sect es idx eo data ed hs ho hd =>
    exact T.parses_kw rfl (msgAttBodySection_enc m hs ho hd _)
  | bodyStructure m b e he => exact T.parses_kw rfl (.kw m ((body_enc he _).last))
  | body m b e he => exact T.parses_kw rfl (.kw m ((body_enc he _).last))
  | envelope m v e he => exact T.parses_kw rfl (.kw m ((envelope_enc he _).last))
  | internalDate m s e hs hu =>
    refine T.parses_kw rfl (.mapRes (v := some s) (.kw m ?_) rfl)
    exact (nstringUtf8_enc (.some s e hs) (by intro s' hs'; cases hs'; exact hu)).any
  | flags m vs e he => exact T.parses_kw rfl (.kw m ((flagList_enc he _).last))
  | modSeq m n e hn he =>
    refine T.parses_kw rfl (.kw m (Parses.last ?_))
    exact parenDelimited_enc ((number_enc (2 ^ 64) hn he).followOf (by decide))
  | rfc822 m v e he => exact T.parses_kw rfl (.kw m ((nstring_enc v e he).any.last))
  | rfc822Header m v e sp he =>
    refine T.parses_kw rfl (.kw m ?_)
    cases sp with
    | true => exact .seq (Parses.optSome (tag_ok (b!" "))) ((nstring_enc v e he).any.last)
    | false =>
      exact .skipOpt ((nstring_enc v e he).any.last) fun r _ =>
        (First.tag _).err_oneOf ((encNString_head he).append r) (by decide)
  | rfc822Size m n e hn he => exact T.parses_kwNum rfl m hn he
  | rfc822Text m v e he => exact T.parses_kw rfl (.kw m ((nstring_enc v e he).any.last))
  | uid m n e hn he => exact T.parses_kwNum rfl m hn he
  | gmailLabels m vs e he =>
    refine T.parses_kw rfl (.map (.kw m ?_))
    exact parenthesizedList_enc label_enc (by decide) label_first (by decide) he _
  | gmailMsgId m n e hn he =>
    exact T.parses_kw rfl (.map (.kw m (number_enc (2 ^ 64) hn he)))

/-- "(" attr *(SP attr) ")" -/
inductive EncAttrs : List AttributeValue → Bytes → Prop
  | mk (first : Bytes × AttributeValue) (others : List (Bytes × AttributeValue)) :
      (∀ x ∈ first :: others, EncAttr x.2 x.1) →
      EncAttrs (first.2 :: others.map (·.2))
        ([40] ++ (first.1 ++ (others.map fun x => [32] ++ x.1).flatten) ++ [41])

theorem msgAttList_enc {vs : List AttributeValue} {e : Bytes} (h : EncAttrs vs e) (F : Bytes → Prop) :
    Parses msgAttList e vs F := by
  cases h with
  | mk first others hall => exact parenthesizedNonemptyList_enc msgAtt_enc (by decide) first others hall F

/-- `* n FETCH (...)` without the `"* "` prefix and line end -/
inductive EncFetch : Response → Bytes → Prop
  | mk (n : Nat) (en : Bytes) (m : List Bool) (vs : List AttributeValue) (ea : Bytes) :
      n < 2 ^ 32 → EncNumber n en → EncAttrs vs ea →
      EncFetch (.fetch n vs) (en ++ (spell (b!" FETCH ") m ++ ea))

theorem messageDataFetch_enc {r : Response} {e : Bytes} (h : EncFetch r e) (F : Bytes → Prop) :
    Parses messageDataFetch e r F := by
  cases h with
  | mk n en m vs ea hn hen hea =>
    exact .bindS (number_enc (2 ^ 32) hn hen) (spell_space_head _ m _)
      (.kw m ((msgAttList_enc hea _).last))

end RT
