/-
  Round-trip for rfc3501/mod.rs above the leaves: capability atoms and the CAPABILITY list, UID sets
  (rfc4315), the response codes `[...]`, response text, status responses (untagged and tagged) and
  continuation requests.
-/
import ImapVerif.Proofs.RT.Leaf
import ImapVerif.Proofs.RT.Tables

open Bytes Parser Grammar

namespace RT

/-! ### capabilities -/

/-- a capability on the wire is an atom; its value is the classification of the complete atom -/
inductive EncCap : Capability → Bytes → Prop
  | mk (a : Bytes) : a ≠ [] → (∀ c ∈ a, isAtomChar c = true) → validUtf8 a = true →
      EncCap (classifyCapability a) a

theorem capability_enc {v : Capability} {e : Bytes} (h : EncCap v e) : Parses capability e v (Starts notAtomChar) := by
  cases h with
  | mk _ hne hall _ => exact .map (atom_enc e hne hall)

/-- `CAPABILITY SP atom ...`; the list must name IMAP4rev1 -/
inductive EncCaps : List Capability → Bytes → Prop
  | mk (m : List Bool) (items : List (Bytes × Capability)) :
      (∀ x ∈ items, EncCap x.2 x.1) → (items.map (·.2)).contains Capability.imap4rev1 = true →
      EncCaps (items.map (·.2)) (spell (b!"CAPABILITY") m ++ (items.map fun x => b!" " ++ x.1).flatten)

theorem capabilityData_enc {v : List Capability} {e : Bytes} (h : EncCaps v e) :
    Parses capabilityData e v (EndOfItems 32 notAtomChar) := by
  cases h with
  | mk m items hall hc =>
    refine .mapRes (.kw m ?_) (if_pos hc)
    exact spAtoms_enc items fun x hx => capability_enc (hall x hx)

/-! ### UID sets (APPENDUID / COPYUID) and charset lists (BADCHARSET) -/

inductive EncUidMember : UidSetMember → Bytes → Prop
  | uid (n : Nat) (e : Bytes) : n < 2 ^ 32 → EncNumber n e → EncUidMember (.uid n) e
  /-- a range may be written in either order -/
  | range (a b : Nat) (ea eb : Bytes) : a < 2 ^ 32 → b < 2 ^ 32 → EncNumber a ea → EncNumber b eb →
      EncUidMember (if a ≤ b then .uidRange a b else .uidRange b a) (ea ++ (b!":" ++ eb))

theorem uidMember_enc {v : UidSetMember} {e : Bytes} (h : EncUidMember v e) :
    Parses (alt uidRange (map number UidSetMember.uid)) e v (Starts seqMemberEnd) := by
  cases h with
  | uid n e hn he => exact setSingle_enc _ _ hn he
  | range a b ea eb ha hb hea heb =>
    exact setRange_enc (fun a b => if a ≤ b then UidSetMember.uidRange a b else .uidRange b a) _ ha hb hea heb

/-- member *("," member) -/
inductive EncUidSet : List UidSetMember → Bytes → Prop
  | mk (first : Bytes × UidSetMember) (others : List (Bytes × UidSetMember)) :
      (∀ x ∈ first :: others, EncUidMember x.2 x.1) →
      EncUidSet (first.2 :: others.map (·.2)) (first.1 ++ (others.map fun x => b!"," ++ x.1).flatten)

theorem uidSet_enc {v : List UidSetMember} {e : Bytes} (h : EncUidSet v e) : Parses uidSet e v (Starts seqSetEnd) := by
  cases h with
  | mk first others hall => exact commaSet_enc first others fun y hy => uidMember_enc (hall y hy)

/-- BADCHARSET's optional charset list -/
inductive EncCharsets : Option (List Bytes) → Bytes → Prop
  | none : EncCharsets none []
  | some (first : Bytes × Bytes) (others : List (Bytes × Bytes)) :
      (∀ x ∈ first :: others, EncAString x.2 x.1 ∧ validUtf8 x.2 = true) →
      EncCharsets (some (first.2 :: others.map (·.2)))
        (b!" " ++ ([40] ++ (first.1 ++ (others.map fun x => [32] ++ x.1).flatten) ++ [41]))

/-! ### response codes -/

/-- the content of `[...]`, code by code -/
inductive EncCode : ResponseCode → Bytes → Prop
  | alert (m : List Bool) : EncCode .alert (spell (b!"ALERT") m)
  | parse (m : List Bool) : EncCode .parse (spell (b!"PARSE") m)
  | readOnly (m : List Bool) : EncCode .readOnly (spell (b!"READ-ONLY") m)
  | readWrite (m : List Bool) : EncCode .readWrite (spell (b!"READ-WRITE") m)
  | tryCreate (m : List Bool) : EncCode .tryCreate (spell (b!"TRYCREATE") m)
  | uidNotSticky (m : List Bool) : EncCode .uidNotSticky (spell (b!"UIDNOTSTICKY") m)
  | metadataTooMany (m : List Bool) : EncCode .metadataTooMany (spell (b!"METADATA TOOMANY") m)
  | metadataNoPrivate (m : List Bool) : EncCode .metadataNoPrivate (spell (b!"METADATA NOPRIVATE") m)
  | uidValidity (m : List Bool) (n : Nat) (e : Bytes) : n < 2 ^ 32 → EncNumber n e →
      EncCode (.uidValidity n) (spell (b!"UIDVALIDITY ") m ++ e)
  | uidNext (m : List Bool) (n : Nat) (e : Bytes) : n < 2 ^ 32 → EncNumber n e →
      EncCode (.uidNext n) (spell (b!"UIDNEXT ") m ++ e)
  | unseen (m : List Bool) (n : Nat) (e : Bytes) : n < 2 ^ 32 → EncNumber n e →
      EncCode (.unseen n) (spell (b!"UNSEEN ") m ++ e)
  | highestModSeq (m : List Bool) (n : Nat) (e : Bytes) : n < 2 ^ 64 → EncNumber n e →
      EncCode (.highestModSeq n) (spell (b!"HIGHESTMODSEQ ") m ++ e)
  | metadataLongEntries (m : List Bool) (n : Nat) (e : Bytes) : n < 2 ^ 64 → EncNumber n e →
      EncCode (.metadataLongEntries n) (spell (b!"METADATA LONGENTRIES ") m ++ e)
  | metadataMaxSize (m : List Bool) (n : Nat) (e : Bytes) : n < 2 ^ 64 → EncNumber n e →
      EncCode (.metadataMaxSize n) (spell (b!"METADATA MAXSIZE ") m ++ e)
  | permanentFlags (m : List Bool) (vs : List Bytes) (e : Bytes) : EncList EncFlagPerm vs e →
      EncCode (.permanentFlags vs) (spell (b!"PERMANENTFLAGS ") m ++ e)
  | capabilities (v : List Capability) (e : Bytes) : EncCaps v e → EncCode (.capabilities v) e
  | badCharset (m : List Bool) (v : Option (List Bytes)) (e : Bytes) : EncCharsets v e →
      EncCode (.badCharset v) (spell (b!"BADCHARSET") m ++ e)
  | appendUid (m : List Bool) (n : Nat) (en : Bytes) (uids : List UidSetMember) (eu : Bytes) :
      n < 2 ^ 32 → EncNumber n en → EncUidSet uids eu →
      EncCode (.appendUid n uids) (spell (b!"APPENDUID ") m ++ (en ++ (b!" " ++ eu)))
  | copyUid (m : List Bool) (n : Nat) (en : Bytes) (src : List UidSetMember) (es : Bytes)
      (dst : List UidSetMember) (ed : Bytes) :
      n < 2 ^ 32 → EncNumber n en → EncUidSet src es → EncUidSet dst ed →
      EncCode (.copyUid n src dst) (spell (b!"COPYUID ") m ++ (en ++ (b!" " ++ (es ++ (b!" " ++ ed)))))

theorem respTextCodeAlt_enc {c : ResponseCode} {e : Bytes} (h : EncCode c e) :
    Parses respTextCodeAlt e c (Starts closeBracket) := by
  have T := respTextCodeAlt_chain
  have sp := tag_ok (b!" ")
  cases h with
  | alert m => exact T.parses_kw0 rfl m _
  | parse m => exact T.parses_kw0 rfl m _
  | readOnly m => exact T.parses_kw0 rfl m _
  | readWrite m => exact T.parses_kw0 rfl m _
  | tryCreate m => exact T.parses_kw0 rfl m _
  | uidNotSticky m => exact T.parses_kw0 rfl m _
  | metadataTooMany m => exact T.parses_kw0 rfl m _
  | metadataNoPrivate m => exact T.parses_kw0 rfl m _
  | uidValidity m n e hn he => exact (T.parses_kwNum rfl m hn he).followOf (by decide)
  | uidNext m n e hn he => exact (T.parses_kwNum rfl m hn he).followOf (by decide)
  | unseen m n e hn he => exact (T.parses_kwNum rfl m hn he).followOf (by decide)
  | highestModSeq m n e hn he => exact (T.parses_kwNum rfl m hn he).followOf (by decide)
  | metadataLongEntries m n e hn he => exact (T.parses_kwNum rfl m hn he).followOf (by decide)
  | metadataMaxSize m n e hn he => exact (T.parses_kwNum rfl m hn he).followOf (by decide)
  | permanentFlags m vs e he =>
    exact T.parses_kw rfl (.kw m ((flagList_enc he _).last))
  | badCharset m v e he =>
    refine T.parses_kw rfl (.kw m (Parses.last ?_))
    cases he with
    | none => exact .optAbsent (First.bind (.tag (b!" "))) (by decide)
    | some first others hall =>
      exact .optSome (.seq sp (parenthesizedNonemptyList_enc (R := fun v e => EncAString v e ∧ validUtf8 v = true)
        (fun hv => astringUtf8_enc hv.1 hv.2) (by decide) first others hall _))
  | appendUid m n en uids eu hn hen hu =>
    exact T.parses_kw rfl <| .kw m <|
      .bindS (number_enc _ hn hen) (.cons (by decide) _) <| .seq sp <|
      ((uidSet_enc hu).followOf (by decide)).last
  | copyUid m n en src es dst ed hn hen hs hd =>
    exact T.parses_kw rfl <| .kw m <|
      .bindS (number_enc _ hn hen) (.cons (by decide) _) <| .seq sp <|
      .bindS (uidSet_enc hs) (.cons (by decide) _) <| .seq sp <|
      ((uidSet_enc hd).followOf (by decide)).last
  | capabilities v e he =>
    have hp := capabilityData_enc he
    cases he with
    | mk m items hall hc =>
      exact T.parses_kw rfl (.map (hp.weaken fun _ hr => .of_starts hr (by decide)))

theorem respTextCode_enc {c : ResponseCode} {e : Bytes} (h : EncCode c e) :
    Parses respTextCode (b!"[" ++ e ++ b!"]") c Any := by
  rw [List.append_assoc]
  exact .seq (tag_ok _) <| .bindS (respTextCodeAlt_enc h) (.cons (by decide) _) <| (tag_ok _).last

theorem code_uidNotSticky_err (u m r) (h : mismatch (b!"UIDNOTSTICKY") u = true) :
    respTextCodeUidNotSticky (spell u m ++ r) = .err := (First.map (.tagNoCase _)).err_mismatch h m r
theorem code_tooMany_err (u m r) (h : mismatch (b!"METADATA TOOMANY") u = true) :
    respTextCodeMetadataTooMany (spell u m ++ r) = .err := (First.map (.tagNoCase _)).err_mismatch h m r
theorem code_noPrivate_err (u m r) (h : mismatch (b!"METADATA NOPRIVATE") u = true) :
    respTextCodeMetadataNoPrivate (spell u m ++ r) = .err := (First.map (.tagNoCase _)).err_mismatch h m r

/-! ### response text -/

def IsText (t : Bytes) : Prop := ∀ c ∈ t, isTextChar c = true

/-- `&text[1..]` does not panic after a code: the byte after the space is a TEXT-CHAR, not a UTF-8
    continuation byte -/
theorem strFrom1_text (b : UInt8) (t : Bytes) (h : IsText t) : strFrom1 (b :: t) = some t := by
  cases t with
  | nil => rfl
  | cons y ys => simp [strFrom1, textChar_notCont y (h y (by simp))]

/-- `[code] SP text`, `[code]`, `text` (not starting with `[`), or nothing -/
inductive EncRespText : Option ResponseCode × Option Bytes → Bytes → Prop
  | empty : EncRespText (none, none) []
  | text (t : Bytes) (x : UInt8) (t' : Bytes) : t = x :: t' → ((91 : UInt8) == x) = false → IsText t →
      EncRespText (none, some t) t
  | code (c : ResponseCode) (e : Bytes) : EncCode c e → EncRespText (some c, none) (b!"[" ++ e ++ b!"]")
  | codeText (c : ResponseCode) (e t : Bytes) : EncCode c e → IsText t →
      EncRespText (some c, some t) (b!"[" ++ e ++ b!"]" ++ (b!" " ++ t))

/-- resp-text is read in one of two ways.  Without a code: `resp_text_code` fails on the text, whether or
    not the text begins with `[` -/
theorem respText_nocode {t : Bytes} {v : Option ResponseCode × Option Bytes} (ht : IsText t)
    (hcode : ∀ r, Starts notTextChar r → respTextCode (t ++ r) = .err) (hfin : respTextFinish none t = some v) :
    Parses respText t v (Starts notTextChar) :=
  .mapPanic (v := (none, t)) (.skipOpt ((text_enc t ht).last) hcode) hfin

/-- With a code: the text goes on right after the bracket, and the closure drops its first byte -/
theorem respText_code {c : ResponseCode} {e t : Bytes} {v : Option ResponseCode × Option Bytes} (hc : EncCode c e)
    (ht : IsText t) (hfin : respTextFinish (some c) t = some v) :
    Parses respText (b!"[" ++ e ++ b!"]" ++ t) v (Starts notTextChar) :=
  .mapPanic (v := (some c, t)) (.seq (.optSome (respTextCode_enc hc)) ((text_enc t ht).last)) hfin

theorem respText_text {t : Bytes} (hne : t ≠ []) (ht : IsText t) (hcode : ∀ r, respTextCode (t ++ r) = .err) :
    Parses respText t (none, some t) (Starts notTextChar) := by
  refine respText_nocode ht (fun r _ => hcode r) ?_
  cases t with
  | nil => exact absurd rfl hne
  | cons _ _ => rfl

theorem respText_enc {v : Option ResponseCode × Option Bytes} {e : Bytes} (h : EncRespText v e) :
    Parses respText e v (Starts notTextChar) := by
  cases h with
  | empty => exact respText_nocode nofun (fun _ hr => bind_err _ (tag_err_class (by decide) hr)) rfl
  | text _ x t' ht hx htext =>
    subst ht
    exact respText_text (List.cons_ne_nil x t') htext fun r => bind_err _ (tag_err_first hx)
  | code c e hc =>
    have := respText_code (t := []) hc nofun rfl
    rwa [List.append_nil] at this
  | codeText c e t hc htext =>
    exact respText_code hc (List.forall_mem_cons.2 ⟨by decide, htext⟩)
      (by simp [respTextFinish, strFrom1_text 32 t htext])

/-- after a status keyword: nothing, a lone space, or `SP resp-text` -/
inductive EncTrailing : Option ResponseCode × Option Bytes → Bytes → Prop
  | none : EncTrailing (none, none) []
  | some (v : Option ResponseCode × Option Bytes) (e : Bytes) : EncRespText v e → EncTrailing v (b!" " ++ e)

/-- `SP resp-text`, for any reading of the response text -/
theorem trailingRespText_some {v : Option ResponseCode × Option Bytes} {e : Bytes}
    (h : Parses respText e v (Starts notTextChar)) : Parses trailingRespText (b!" " ++ e) v (Starts notTextChar) :=
  .map (v := some v) (.optSome (.seq (tag_ok _) h))

theorem trailingRespText_enc {v : Option ResponseCode × Option Bytes} {e : Bytes} (h : EncTrailing v e) :
    Parses trailingRespText e v (Starts notTextChar) := by
  cases h with
  | none => exact .map (v := none) (.optNone fun _ hr => bind_err _ (tag_err_class (by decide) hr))
  | some v e he => exact trailingRespText_some (respText_enc he)

/-! ### status responses -/

def statusKw : Status → Bytes
  | .ok => b!"OK" | .no => b!"NO" | .bad => b!"BAD" | .preAuth => b!"PREAUTH" | .bye => b!"BYE"

theorem statusP_enc (s : Status) (m : List Bool) : Parses statusP (spell (statusKw s) m) s Any := by
  cases s with
  | ok => exact statusP_chain.parses_kw0 rfl m _
  | no => exact statusP_chain.parses_kw0 rfl m _
  | bad => exact statusP_chain.parses_kw0 rfl m _
  | preAuth => exact statusP_chain.parses_kw0 rfl m _
  | bye => exact statusP_chain.parses_kw0 rfl m _

/-- for any reading of what follows the status keyword -/
theorem respCond_enc (s : Status) (m : List Bool) {v : Option ResponseCode × Option Bytes} {e : Bytes}
    (h : Parses trailingRespText e v (Starts notTextChar)) :
    Parses respCond (spell (statusKw s) m ++ e) (.data s v.1 v.2) (Starts notTextChar) :=
  .seq (statusP_enc s m) (h.last)

def IsTag (t : Bytes) : Prop := t ≠ [] ∧ ∀ c ∈ t, isTagChar c = true

/-- **tagged completion**: `tag SP status [SP resp-text] CRLF` -/
theorem responseTagged_enc {t : Bytes} (ht : IsTag t) (s : Status) (m : List Bool)
    {v : Option ResponseCode × Option Bytes} {e : Bytes} (h : EncTrailing v e) :
    Parses responseTagged (t ++ (b!" " ++ (spell (statusKw s) m ++ (e ++ b!"\r\n")))) (.done t s v.1 v.2) Any := by
  have htag : Parses imapTag t t (Starts (oneOf [32])) :=
    .mapRes ((takeWhile1_ok isTagChar t ht.1 ht.2).followOf (by decide))
      (by simp [utf8, Utf8.ascii_utf8 t fun c hc => astringChar_ascii c (Bool.and_eq_true_iff.1 (ht.2 c hc)).2])
  exact .bindS htag (.cons (by decide) _) <| .seq (tag_ok _) <| .seq (statusP_enc s m) <|
    .bindS (trailingRespText_enc h) (.cons (by decide) _) <| (tag_ok _).last

/-- **continuation request**: `+ [SP] resp-text CRLF` (the space after `+` is optional) -/
theorem continueReq_enc (sp : Bool) {v : Option ResponseCode × Option Bytes} {e : Bytes} (h : EncRespText v e)
    (hsp : sp = false → ∀ x t, e = x :: t → ((32 : UInt8) == x) = false) :
    Parses continueReq (b!"+" ++ ((if sp then b!" " else []) ++ (e ++ b!"\r\n"))) (.continue_ v.1 v.2) Any := by
  have htail : Parses (do let t ← respText; tag (b!"\r\n"); pure (Response.continue_ t.1 t.2)) (e ++ b!"\r\n")
      (.continue_ v.1 v.2) Any :=
    .bindS (respText_enc h) (.cons (by decide) _) ((tag_ok _).last)
  cases sp with
  | true => exact .seq (tag_ok _) (.seq (.optSome (tag_ok _)) htail)
  | false =>
    -- without the space the text itself must not begin with one
    refine .seq (tag_ok _) (.skipOpt htail fun r _ => ?_)
    cases e with
    | nil => exact tag_err_first (by decide)
    | cons y ys => exact tag_err_first (hsp rfl y ys rfl)

end RT
