/-
  Round-trip: BODY[section]<origin> (rfc3501/body.rs): section-msgtext, section-text, the dotted part
  numbers, section-spec, the brackets, the origin octet and the whole FETCH item.
-/
import ImapVerif.Proofs.RT.Leaf

open Bytes Parser Grammar

namespace RT

/-! ### section-msgtext / section-text -/

/-- `HEADER`, `HEADER.FIELDS[.NOT] (names)` (both yield `header`; the field names are not kept by the
    crate's types), `TEXT` -/
inductive EncMsgText : MessageSection → Bytes → Prop
  | headerFields (m : List Bool) (neg : Option (List Bool)) (names : List Bytes) (en : Bytes) :
      EncList (fun v e => EncAString v e) names en →
      EncMsgText .header (spell (b!"HEADER.FIELDS") m ++ ((match neg with | some mn => spell (b!".NOT") mn | none => []) ++
        (b!" " ++ en)))
  | header (m : List Bool) : EncMsgText .header (spell (b!"HEADER") m)
  | text (m : List Bool) : EncMsgText .text (spell (b!"TEXT") m)

/-- section-msgtext: the longer keyword is tried first -/
theorem sectionMsgtext_chain : Chain sectionMsgtext
    [ ([.word (b!"HEADER.FIELDS")], do
        tagNoCase (b!"HEADER.FIELDS")
        let _ ← opt (tagNoCase (b!".NOT"))
        tag (b!" ")
        let _ ← parenthesizedList astring
        pure MessageSection.header),
      ([.word (b!"HEADER")], map (tagNoCase (b!"HEADER")) fun _ => MessageSection.header),
      ([.word (b!"TEXT")], map (tagNoCase (b!"TEXT")) fun _ => MessageSection.text) ] :=
  .cons (.bind (.tagNoCase _)) <| .cons (.map (.tagNoCase _)) <| .one (.map (.tagNoCase _))

theorem sectionMsgtext_enc {v : MessageSection} {e : Bytes} (h : EncMsgText v e) :
    Parses sectionMsgtext e v (Starts closeBracket) := by
  cases h with
  | headerFields m neg names en hn =>
    have hneg : Parses (opt (tagNoCase (b!".NOT"))) (match neg with | some mn => spell (b!".NOT") mn | none => [])
        (neg.map fun _ => ()) (Starts (oneOf [32])) := by
      cases neg with
      | none => exact .optAbsent (First.tagNoCase _) (by decide)
      | some mn => exact .optSome (tagNoCase_spell _ mn).any
    refine sectionMsgtext_chain.parses_kw rfl ?_
    exact .kw m <| .bindS hneg (.cons (by decide) _) <| .seq (tag_ok _) <|
      (parenthesizedList_enc astring_enc (by decide) astring_first (by decide) hn _).last
  | header m =>
    -- with the bracket that follows, `HEADER]` spells a keyword that the first row cannot begin
    refine sectionMsgtext_chain.parses_of 1 rfl (Tok.missKw (b!"HEADER]")) (fun rest hr _ ht => ?_)
      (fun _ _ _ hrow => nomatch hrow) (kwOnly_enc _ _ m _)
    obtain ⟨c, r, rfl, hc⟩ := hr
    obtain rfl : c = 93 := by simpa [closeBracket, oneOf] using hc
    exact spell_snoc _ m 93 rfl r ▸ Tok.missKw_misses ht m r
  | text m => exact sectionMsgtext_chain.parses_kw0 rfl m _

/-- section-text = section-msgtext / "MIME" -/
inductive EncSecText : MessageSection → Bytes → Prop
  | msg (v : MessageSection) (e : Bytes) : EncMsgText v e → EncSecText v e
  | mime (m : List Bool) : EncSecText .mime (spell (b!"MIME") m)

theorem sectionText_enc {v : MessageSection} {e : Bytes} (h : EncSecText v e) :
    Parses sectionText e v (Starts closeBracket) := by
  cases h with
  | msg v e hm => exact .altL (sectionMsgtext_enc hm)
  | mime m => exact .altR (kwOnly_enc _ _ m _) fun rest _ => sectionMsgtext_chain.first.err_kw (by decide) m rest

theorem encSecText_head {v : MessageSection} {e : Bytes} (h : EncSecText v e) :
    Starts (oneOf [72, 104, 84, 116, 77, 109]) e := by
  cases h with
  | msg v e hm =>
    cases hm with
    | headerFields m neg names en hn => exact ((spell_head 72 _ m).of_oneOf (by decide)).append _
    | header m => exact (spell_head 72 _ m).of_oneOf (by decide)
    | text m => exact (spell_head 84 _ m).of_oneOf (by decide)
  | mime m => exact (spell_head 77 _ m).of_oneOf (by decide)

/-! ### section-part, section-spec, section -/

theorem sectionPart_enc (first : Bytes × Nat) (others : List (Bytes × Nat))
    (hall : ∀ x ∈ first :: others, x.2 < 2 ^ 32 ∧ EncNumber x.2 x.1) :
    Parses sectionPart (first.1 ++ (others.map fun x => b!"." ++ x.1).flatten) (first.2 :: others.map (·.2))
      (EndOfItems 46 notDigit) := by
  have hnum : ∀ x ∈ first :: others, Parses number x.1 x.2 (Starts notDigit) := fun x hx =>
    number_enc _ (hall x hx).1 (hall x hx).2
  have hdot : ∀ r, Starts notDigit (b!"." ++ r) := fun r => .cons (by decide) r
  have hend : ∀ r, EndOfItems 46 notDigit r → Starts notDigit r := fun _ hr => hr.starts (by decide)
  refine .bind (hnum first (by simp)) (Parses.last ?_)
    (follow_items (others.map fun x => b!"." ++ x.1) (List.forall_mem_map.2 fun _ _ r => (hdot _).append r) hend)
  exact Parser.char_eq 46 ▸ .many0_b 46 (by decide) others (fun x hx => hnum x (by simp [hx]))
    fun _ ht => (First.number _).err_compl ht

inductive EncSectionSpec : SectionPath → Bytes → Prop
  | full (v : MessageSection) (e : Bytes) : EncMsgText v e → EncSectionSpec (.full v) e
  | part (first : Bytes × Nat) (others : List (Bytes × Nat)) :
      (∀ x ∈ first :: others, x.2 < 2 ^ 32 ∧ EncNumber x.2 x.1) →
      EncSectionSpec (.part (first.2 :: others.map (·.2)) none)
        (first.1 ++ (others.map fun x => b!"." ++ x.1).flatten)
  | partText (first : Bytes × Nat) (others : List (Bytes × Nat)) (v : MessageSection) (et : Bytes) :
      (∀ x ∈ first :: others, x.2 < 2 ^ 32 ∧ EncNumber x.2 x.1) → EncSecText v et →
      EncSectionSpec (.part (first.2 :: others.map (·.2)) (some v))
        (first.1 ++ (others.map fun x => b!"." ++ x.1).flatten ++ (b!"." ++ et))

theorem sectionSpec_enc {v : SectionPath} {e : Bytes} (h : EncSectionSpec v e) :
    Parses sectionSpec e v (Starts closeBracket) := by
  -- the first alternative, section-msgtext, begins with a letter: it rejects a part number
  have hdigit : ∀ i, Starts isDigit i → map sectionMsgtext SectionPath.full i = .err := fun _ =>
    (First.map sectionMsgtext_chain.first).err_digit (by decide)
  cases h with
  | full v e hm => exact .altL (.map (sectionMsgtext_enc hm))
  | part first others hall =>
    have hfirst := encNumber_head (hall first (by simp)).2
    refine .altR ?_ fun rest _ => hdigit _ ((hfirst.append _).append rest)
    exact .bind_nil ((sectionPart_enc first others hall).weaken fun _ hr => .of_starts hr (by decide))
      (Parses.last (.optAbsent (First.bind (.char 46)) (by decide)))
  | partText first others v et hall ht =>
    have hfirst := encNumber_head (hall first (by simp)).2
    refine .altR ?_ fun rest _ => hdigit _ (((hfirst.append _).append _).append rest)
    exact .bind (sectionPart_enc first others hall)
      (Parses.last (.optSome (.seq (char_ok 46) (sectionText_enc ht))))
      fun r _ => .inr ⟨_, rfl, ((encSecText_head ht).of_oneOf (by decide)).append r⟩

/-- `[` [section-spec] `]` -/
inductive EncSection : Option SectionPath → Bytes → Prop
  | none : EncSection none (b!"[]")
  | some (v : SectionPath) (e : Bytes) : EncSectionSpec v e → EncSection (some v) (b!"[" ++ e ++ b!"]")

theorem section_enc {v : Option SectionPath} {e : Bytes} (h : EncSection v e) : Parses section_ e v Any := by
  cases h with
  | none =>
    refine .seq (e1 := [91]) (char_ok 91) (.skipOpt ((char_ok 93).last) fun _ _ => ?_)
    exact (First.alt (.map sectionMsgtext_chain.first) (.bind (.bind (.number _)))).err_byte (by decide) _
  | some v e hs =>
    rw [List.append_assoc]
    exact .seq (char_ok 91) <| .bindS (.optSome (sectionSpec_enc hs)) (.cons (by decide) _) <| (char_ok 93).last

inductive EncOrigin : Option Nat → Bytes → Prop
  | none : EncOrigin none []
  | some (n : Nat) (e : Bytes) : n < 2 ^ 32 → EncNumber n e → EncOrigin (some n) (b!"<" ++ e ++ b!">")

theorem origin_enc {v : Option Nat} {e : Bytes} (h : EncOrigin v e) :
    Parses (opt (do char 60; let n ← number; char 62; pure n)) e v (Starts (oneOf [32])) := by
  cases h with
  | none => exact .optAbsent (First.bind (.char 60)) (by decide)
  | some n e hn he =>
    rw [List.append_assoc]
    exact .optSome <| .seq (char_ok 60) <| .bindS (number_enc _ hn he) (.cons (by decide) _) <|
      ((char_ok 62).last).any

theorem msgAttBodySection_enc (m : List Bool) {sect : Option SectionPath} {es : Bytes} (hs : EncSection sect es)
    {idx : Option Nat} {eo : Bytes} (ho : EncOrigin idx eo) {data : Option Bytes} {ed : Bytes}
    (hd : EncNString data ed) (F : Bytes → Prop) :
    Parses msgAttBodySection (spell (b!"BODY") m ++ (es ++ (eo ++ (b!" " ++ ed)))) (.bodySection sect idx data) F :=
  .kw m <| .seq (section_enc hs) <| .bindS (origin_enc ho) (.cons (by decide) _) <|
    .seq (tag_ok _) ((nstring_enc data ed hd).last).any

end RT
