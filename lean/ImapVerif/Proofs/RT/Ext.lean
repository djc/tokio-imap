/-
  Round-trip for the extension responses: rfc4314 (MYRIGHTS, LISTRIGHTS, ACL), rfc2087 (QUOTA, QUOTAROOT),
  rfc5161 (ENABLED), rfc7162 (VANISHED, with the sequence sets of core.rs), rfc2971 (ID).
  Most of them are words separated by white space up to the end of the line: the rules for such lists
  and their follow set `EndOfWords` come first.
-/
import ImapVerif.Proofs.RT.Leaf

open Bytes Parser Grammar

namespace RT

def SpacesThen (bs : List UInt8) (r : Bytes) : Prop :=
  ∃ ws t, (∀ c ∈ ws, isSpace c = true) ∧ r = ws ++ t ∧ Starts (oneOf bs) t

theorem SpacesThen.starts {bs : List UInt8} {r : Bytes} (h : SpacesThen bs r) {C : UInt8 → Bool}
    (hbs : bs.all C = true) (hC : [32, 9].all C = true) : Starts C r := by
  obtain ⟨ws, t, hws, rfl, ht⟩ := h
  cases ws with
  | nil => exact ht.of_oneOf hbs
  | cons a as => exact ((isSpaces_head ⟨List.cons_ne_nil a as, hws⟩).of_oneOf hC).append t

theorem SpacesThen.stop {bs : List UInt8} {r : Bytes} (h : SpacesThen bs r) {p : Parser α} {hs : List Tok}
    (hp : First hs p) (hsp : bs.all notSpace = true) (hbs : (bs.all fun x => hs.all (Tok.missByte x)) = true) :
    ListEnds space1 p r := by
  obtain ⟨ws, t, hws, rfl, ht⟩ := h
  cases ws with
  | nil => exact .inl (First.space1.err_compl (ht.of_oneOf hsp))
  | cons a as =>
    exact .inr ⟨t, space1_enc ⟨List.cons_ne_nil a as, hws⟩ t (ht.of_oneOf hsp),
      by rw [List.length_append, List.length_cons]; omega, hp.err_oneOf ht hbs⟩

/-- end of a list of words at the end of a line: white space, possibly none, then CR / LF (the white
    space is left for the response wrapper) -/
def EndOfWords : Bytes → Prop := SpacesThen [13, 10]

theorem endOfWords_notAstring {r : Bytes} (h : EndOfWords r) : Starts notAstringChar r :=
  h.starts (by decide) (by decide)

/-- what may follow a list of words that may be empty: with words, `EndOfWords`; without, CR / LF (the
    white space then belongs to the list) -/
def AfterWords (ne : Bool) (r : Bytes) : Prop := if ne then EndOfWords r else Starts crlfStart r

theorem endOfWords_line (k : Nat) (rest : Bytes) : EndOfWords (List.replicate k 32 ++ (b!"\r\n" ++ rest)) :=
  ⟨_, _, fun c hc => by rw [List.eq_of_mem_replicate hc]; rfl, rfl, .cons (by decide) _⟩

theorem afterWords_line (ne : Bool) (k : Nat) (hk : ne = false → k = 0) (rest : Bytes) :
    AfterWords ne (List.replicate k 32 ++ (b!"\r\n" ++ rest)) := by
  cases ne with
  | true => exact endOfWords_line k rest
  | false => rw [hk rfl]; exact .cons (by decide) _

/-- `R v e` says that `e` encodes the item `v`.  An item begins with a byte that is not white space and may
    be followed by any byte of a class `C` that contains white space; `F` is the follow set of the list.
    The grammar reads such items with two loops: `many0` of `space1 item` after a first item, and `sepList0`. -/
theorem space1Items_enc {p : Parser α} {R : α → Bytes → Prop} {C : UInt8 → Bool} {F : Bytes → Prop}
    (hp : ∀ {v e}, R v e → Parses p e v (Starts C)) (hhead : ∀ {v e}, R v e → Starts notSpace e)
    (hC : [32, 9].all C = true) (hF : ∀ r, F r → Starts C r) (hstop : ∀ r, F r → ListEnds space1 p r)
    (items : List (Bytes × Bytes × α)) (hitems : ∀ x ∈ items, IsSpaces x.1 ∧ R x.2.2 x.2.1) :
    Parses (Parser.many0 (do space1; p)) (items.map fun x => x.1 ++ x.2.1).flatten (items.map (·.2.2)) F ∧
    ∀ first : Bytes × α, R first.2 first.1 →
      Parses (Parser.sepList0 space1 p) (first.1 ++ (items.map fun x => x.1 ++ x.2.1).flatten)
        (first.2 :: items.map (·.2.2)) F := by
  have hsep : ∀ x ∈ items, Parses space1 x.1 () (Starts notSpace) ∧ x.1 ≠ [] := fun x hx =>
    ⟨space1_enc (hitems x hx).1, (hitems x hx).1.1⟩
  have hitem : ∀ x ∈ items, Parses p x.2.1 x.2.2 (Starts C) := fun x hx => hp (hitems x hx).2
  have hS : ∀ x ∈ items, ∀ r, Starts notSpace (x.2.1 ++ r) := fun x hx r => (hhead (hitems x hx).2).append r
  have hG : ∀ x ∈ items, ∀ r, Starts C (x.1 ++ r) := fun x hx r =>
    ((isSpaces_head (hitems x hx).1).of_oneOf hC).append r
  exact ⟨.many0_sep _ _ F items (fun x hx => (hsep x hx).1) hitem hS hG hF hstop, fun first hfirst =>
    (Parses.sepList1 _ _ F first items (hp hfirst) hsep hitem hS hG hF hstop).sepList0_of_sepList1⟩

theorem word_enc {s e : Bytes} (h : EncAString s e ∧ validUtf8 s = true) :
    Parses astringUtf8 e s (Starts notAstringChar) := astringUtf8_enc h.1 h.2

theorem word_notSpace {s e : Bytes} (h : EncAString s e ∧ validUtf8 s = true) : Starts notSpace e :=
  encAString_notSpace h.1

/-! ### rights -/

/-- a rights string: the value is the list of its characters as rights -/
inductive EncRights : List AclRight → Bytes → Prop
  | mk (s e : Bytes) : EncAString s e → validUtf8 s = true → EncRights (textToRights s) e

theorem rights_enc {v : List AclRight} {e : Bytes} (h : EncRights v e) :
    Parses (map astringUtf8 textToRights) e v (Starts notAstringChar) := by
  cases h with
  | mk s e hs hu => exact .map (astringUtf8_enc hs hu)

theorem encRights_notSpace {v : List AclRight} {e : Bytes} (h : EncRights v e) : Starts notSpace e := by
  cases h with
  | mk s e hs hu => exact encAString_notSpace hs

/-! ### MYRIGHTS -/

theorem myRights_enc (m : List Bool) {w1 w2 : Bytes} (hw1 : IsSpaces w1) (hw2 : IsSpaces w2)
    {name ename : Bytes} (hn : EncAString name ename) (hu : validUtf8 name = true)
    {rights : List AclRight} {er : Bytes} (hr : EncRights rights er) :
    Parses myRights (spell (b!"MYRIGHTS") m ++ (w1 ++ (ename ++ (w2 ++ er))))
      (.myRights { mailbox := canonMailbox name, rights := rights }) (Starts notAstringChar) :=
  .kw m <|
  .sp hw1 ((encAString_notSpace hn).append _) <|
  .bindSp (mailbox_enc hn hu) (by decide) hw2 (encRights_notSpace hr) <|
  (rights_enc hr).last

/-! ### LISTRIGHTS -/

/-- the optional rights: further astrings separated by white space; their characters are
    concatenated.  The flag says whether any word is present (it decides what may follow). -/
inductive EncOptRights : Bool → List AclRight → Bytes → Prop
  /-- no optional rights: any white space here is consumed by the parser -/
  | none (w0 : Bytes) : (∀ c ∈ w0, isSpace c = true) → EncOptRights false [] w0
  | some (w0 : Bytes) (first : Bytes × Bytes) (items : List (Bytes × Bytes × Bytes)) :
      IsSpaces w0 →
      (EncAString first.2 first.1 ∧ validUtf8 first.2 = true) →
      (∀ x ∈ items, IsSpaces x.1 ∧ EncAString x.2.2 x.2.1 ∧ validUtf8 x.2.2 = true) →
      EncOptRights true ((first.2 :: items.map (·.2.2)).flatMap textToRights)
        (w0 ++ (first.1 ++ (items.map fun x => x.1 ++ x.2.1).flatten))

theorem listRightsOptional_enc {ne : Bool} {v : List AclRight} {e : Bytes} (h : EncOptRights ne v e) :
    Parses listRightsOptional e v (AfterWords ne) := by
  cases h with
  | none _ hw0 =>
    exact .bind_nil ((space0_enc e hw0).followOf (bs := [13, 10]) (by decide))
      ((Parses.sepList0_nil fun r hr => astringUtf8_first.err_oneOf hr (by decide)).last)
  | some w0 first items hw0 hfirst hitems =>
    have words := space1Items_enc word_enc word_notSpace (by decide) (fun _ => endOfWords_notAstring)
      (fun _ hr => hr.stop astringUtf8_first (by decide) (by decide)) items hitems
    exact .bindS (space0_enc w0 hw0.2) ((encAString_notSpace hfirst.1).append _) ((words.2 first hfirst).last)

/-- the optional rights, or what follows them, do not continue the astring before them -/
theorem encOptRights_follow {ne : Bool} {v : List AclRight} {e : Bytes} (h : EncOptRights ne v e) (r : Bytes)
    (hr : AfterWords ne r) : Starts notAstringChar (e ++ r) := by
  cases h with
  | none _ hw0 => exact endOfWords_notAstring ⟨e, r, hw0, rfl, hr⟩
  | some w0 _ _ hw0 _ _ => exact ((isSpaces_notAstring hw0).append _).append r

theorem listRights_enc (m : List Bool) {w1 w2 w3 : Bytes} (hw1 : IsSpaces w1) (hw2 : IsSpaces w2) (hw3 : IsSpaces w3)
    {name ename : Bytes} (hn : EncAString name ename) (hu : validUtf8 name = true)
    {ident eident : Bytes} (hi : EncAString ident eident) (hui : validUtf8 ident = true)
    {required : List AclRight} {er : Bytes} (hr : EncRights required er)
    {ne : Bool} {optional : List AclRight} {eo : Bytes} (ho : EncOptRights ne optional eo) :
    Parses listRights (spell (b!"LISTRIGHTS") m ++ (w1 ++ (ename ++ (w2 ++ (eident ++ (w3 ++ (er ++ eo)))))))
      (.listRights { mailbox := canonMailbox name, identifier := ident, required := required, optional := optional })
      (AfterWords ne) :=
  .kw m <|
  .sp hw1 ((encAString_notSpace hn).append _) <|
  .bindSp (mailbox_enc hn hu) (by decide) hw2 ((encAString_notSpace hi).append _) <|
  .bindSp (astringUtf8_enc hi hui) (by decide) hw3 ((encRights_notSpace hr).append _) <|
  .bind (rights_enc hr) ((listRightsOptional_enc ho).last) (encOptRights_follow ho)

/-! ### ACL -/

/-- `identifier SP rights` -/
inductive EncAclEntry : AclEntry → Bytes → Prop
  | mk (ident eident : Bytes) (w : Bytes) (rights : List AclRight) (er : Bytes) :
      EncAString ident eident → validUtf8 ident = true → IsSpaces w → EncRights rights er →
      EncAclEntry { identifier := ident, rights := rights } (eident ++ (w ++ er))

theorem aclEntry_enc {v : AclEntry} {e : Bytes} (h : EncAclEntry v e) :
    Parses aclEntry e v (Starts notAstringChar) := by
  cases h with
  | mk ident eident w rights er hi hui hw hr =>
    exact .bindSp (astringUtf8_enc hi hui) (by decide) hw (encRights_notSpace hr) <|
      (rights_enc hr).last

theorem encAclEntry_notSpace {v : AclEntry} {e : Bytes} (h : EncAclEntry v e) : Starts notSpace e := by
  cases h with
  | mk ident eident _ _ _ hi _ _ _ => exact (encAString_notSpace hi).append _

theorem aclEntry_first : First [.cls isAstringChar, .cls (· == 34), .word (b!"{")] aclEntry :=
  .bind astringUtf8_first

/-- the entries after the mailbox; the flag says whether there is any -/
inductive EncAclList : Bool → List AclEntry → Bytes → Prop
  | none (w0 : Bytes) : (∀ c ∈ w0, isSpace c = true) → EncAclList false [] w0
  | some (w0 : Bytes) (first : Bytes × AclEntry) (items : List (Bytes × Bytes × AclEntry)) :
      IsSpaces w0 → EncAclEntry first.2 first.1 → (∀ x ∈ items, IsSpaces x.1 ∧ EncAclEntry x.2.2 x.2.1) →
      EncAclList true (first.2 :: items.map (·.2.2)) (w0 ++ (first.1 ++ (items.map fun x => x.1 ++ x.2.1).flatten))

theorem aclList_enc {ne : Bool} {v : List AclEntry} {e : Bytes} (h : EncAclList ne v e) :
    Parses aclList e v (AfterWords ne) := by
  cases h with
  | none _ hw0 =>
    exact .bind_nil ((space0_enc e hw0).followOf (bs := [13, 10]) (by decide))
      (Parses.sepList0_nil fun r hr => aclEntry_first.err_oneOf hr (by decide))
  | some w0 first items hw0 hfirst hitems =>
    have entries := space1Items_enc aclEntry_enc encAclEntry_notSpace (by decide) (fun _ => endOfWords_notAstring)
      (fun _ hr => hr.stop aclEntry_first (by decide) (by decide)) items hitems
    exact .bindS (space0_enc w0 hw0.2) ((encAclEntry_notSpace hfirst).append _) (entries.2 first hfirst)

/-- the entries, or what follows them, do not continue the mailbox name before them -/
theorem encAclList_follow {ne : Bool} {v : List AclEntry} {e : Bytes} (h : EncAclList ne v e) (r : Bytes)
    (hr : AfterWords ne r) : Starts notAstringChar (e ++ r) := by
  cases h with
  | none _ hw0 => exact endOfWords_notAstring ⟨e, r, hw0, rfl, hr⟩
  | some w0 _ _ hw0 _ _ => exact ((isSpaces_notAstring hw0).append _).append r

theorem acl_enc (m : List Bool) {w1 : Bytes} (hw1 : IsSpaces w1) {name ename : Bytes} (hn : EncAString name ename)
    (hu : validUtf8 name = true) {ne : Bool} {entries : List AclEntry} {el : Bytes} (hl : EncAclList ne entries el) :
    Parses acl (spell (b!"ACL") m ++ (w1 ++ (ename ++ el))) (.acl { mailbox := canonMailbox name, acls := entries })
      (AfterWords ne) :=
  .kw m <|
  .sp hw1 ((encAString_notSpace hn).append _) <|
  .bind (mailbox_enc hn hu) ((aclList_enc hl).last) (encAclList_follow hl)

/-! ### QUOTA / QUOTAROOT -/

/-- `name SP usage SP limit`; the name is classified by the complete astring -/
inductive EncQuotaResource : QuotaResource → Bytes → Prop
  | mk (name ename w1 w2 : Bytes) (usage : Nat) (eu : Bytes) (limit : Nat) (el : Bytes) :
      EncAString name ename → validUtf8 name = true → IsSpaces w1 → IsSpaces w2 →
      usage < 2 ^ 64 → EncNumber usage eu → limit < 2 ^ 64 → EncNumber limit el →
      EncQuotaResource { name := classifyQuotaResource name, usage := usage, limit := limit }
        (ename ++ (w1 ++ (eu ++ (w2 ++ el))))

theorem quotaResource_enc {v : QuotaResource} {e : Bytes} (h : EncQuotaResource v e) :
    Parses quotaResource e v (Starts notDigit) := by
  cases h with
  | mk name ename w1 w2 usage eu limit el hn hu hw1 hw2 hus heu hli hel =>
    exact
      .bindSp (.map (astringUtf8_enc hn hu)) (by decide) hw1
        (((encNumber_head heu).mono digit_notSpace).append _) <|
      .bindSp (number_enc (2 ^ 64) hus heu) (by decide) hw2 ((encNumber_head hel).mono digit_notSpace) <|
      (number_enc (2 ^ 64) hli hel).last

theorem encQuotaResource_notSpace {v : QuotaResource} {e : Bytes} (h : EncQuotaResource v e) : Starts notSpace e := by
  cases h with
  | mk name ename _ _ _ _ _ _ hn _ _ _ _ _ _ _ => exact (encAString_notSpace hn).append _

theorem quotaResource_first : First [.cls isAstringChar, .cls (· == 34), .word (b!"{")] quotaResource :=
  .bind (.map astringUtf8_first)

/-- `(` resources separated by white space `)` -/
inductive EncQuotaList : List QuotaResource → Bytes → Prop
  | nil : EncQuotaList [] (b!"()")
  | cons (first : Bytes × QuotaResource) (items : List (Bytes × Bytes × QuotaResource)) :
      EncQuotaResource first.2 first.1 → (∀ x ∈ items, IsSpaces x.1 ∧ EncQuotaResource x.2.2 x.2.1) →
      EncQuotaList (first.2 :: items.map (·.2.2))
        (b!"(" ++ (first.1 ++ (items.map fun x => x.1 ++ x.2.1).flatten) ++ b!")")

theorem quotaList_enc {v : List QuotaResource} {e : Bytes} (h : EncQuotaList v e) : Parses quotaList e v Any := by
  -- `parenDelimited (sepList0 space1 quotaResource)` with the parentheses read by `tag`
  unfold quotaList
  rw [← char_eq 40, ← char_eq 41]
  cases h with
  | nil =>
    exact parenDelimited_enc (e := []) (Parses.sepList0_nil fun r hr => quotaResource_first.err_oneOf hr (by decide))
  | cons first items hfirst hitems =>
    have resources := space1Items_enc (F := Starts closeParen) quotaResource_enc encQuotaResource_notSpace (by decide)
      (fun _ hr => hr.of_oneOf (by decide)) (fun _ hr => .inl (First.space1.err_oneOf hr (by decide))) items hitems
    exact parenDelimited_enc (resources.2 first hfirst)

theorem encQuotaList_notSpace {v : List QuotaResource} {e : Bytes} (h : EncQuotaList v e) : Starts notSpace e := by
  cases h with
  | nil => exact .cons (by decide) _
  | cons _ _ _ _ => exact .cons (by decide) _

theorem quota_enc (m : List Bool) {w1 w2 : Bytes} (hw1 : IsSpaces w1) (hw2 : IsSpaces w2)
    {root eroot : Bytes} (hr : EncAString root eroot) (hu : validUtf8 root = true)
    {res : List QuotaResource} {el : Bytes} (hl : EncQuotaList res el) :
    Parses quota (spell (b!"QUOTA") m ++ (w1 ++ (eroot ++ (w2 ++ el)))) (.quota { rootName := root, resources := res })
      Any :=
  .kw m <|
  .sp hw1 ((encAString_notSpace hr).append _) <|
  .bindSp (astringUtf8_enc hr hu) (by decide) hw2 (encQuotaList_notSpace hl) <|
  (quotaList_enc hl).last

theorem quotaRoot_enc (m : List Bool) {w1 : Bytes} (hw1 : IsSpaces w1) {name ename : Bytes}
    (hn : EncAString name ename) (hu : validUtf8 name = true) (items : List (Bytes × Bytes × Bytes))
    (hitems : ∀ x ∈ items, IsSpaces x.1 ∧ EncAString x.2.2 x.2.1 ∧ validUtf8 x.2.2 = true) :
    Parses quotaRoot (spell (b!"QUOTAROOT") m ++ (w1 ++ (ename ++ (items.map fun x => x.1 ++ x.2.1).flatten)))
      (.quotaRoot { mailboxName := name, quotaRootNames := items.map (·.2.2) }) EndOfWords :=
  .kw m <|
  .sp hw1 ((encAString_notSpace hn).append _) <|
  .bind (astringUtf8_enc hn hu)
    ((space1Items_enc word_enc word_notSpace (by decide) (fun _ => endOfWords_notAstring)
      (fun _ hr => hr.stop astringUtf8_first (by decide) (by decide)) items hitems).1.last)
    -- the name ends at the white space before the first root, or at the end of the line
    (follow_items _ (List.forall_mem_map.2 fun x hx r => ((isSpaces_notAstring (hitems x hx).1).append _).append r)
      fun _ => endOfWords_notAstring)

/-! ### ENABLED -/

theorem enabled_enc (m : List Bool) (items : List (Bytes × Bytes))
    (hall : ∀ x ∈ items, x.1 ≠ [] ∧ (∀ c ∈ x.1, isAtomChar c = true) ∧ validUtf8 x.1 = true ∧ x.2 = x.1) :
    Parses respEnabled (spell (b!"ENABLED") m ++ (items.map fun x => b!" " ++ x.1).flatten)
      (.capabilities (items.map fun x => Capability.atom x.2)) (EndOfItems 32 notAtomChar) := by
  have key := spAtoms_enc (g := Capability.atom) (items.map fun x => (x.1, Capability.atom x.2))
    (List.forall_mem_map.2 fun x hx => by
      obtain ⟨hne, hat, -, heq⟩ := hall x hx
      rw [heq]
      exact .map (atom_enc x.1 hne hat))
  exact .map (.kw m (by simpa [List.map_map, Function.comp_def] using key))

/-! ### sequence sets -/

/-- a member of a sequence set denotes a closed interval; `high:low` denotes the same as `low:high` -/
inductive EncSeqMember : Nat × Nat → Bytes → Prop
  | single (n : Nat) (e : Bytes) : n < 2 ^ 32 → EncNumber n e → EncSeqMember (n, n) e
  | range (a b : Nat) (ea eb : Bytes) : a < 2 ^ 32 → b < 2 ^ 32 → EncNumber a ea → EncNumber b eb →
      EncSeqMember (if a ≤ b then (a, b) else (b, a)) (ea ++ (b!":" ++ eb))

theorem seqMember_enc {v : Nat × Nat} {e : Bytes} (h : EncSeqMember v e) :
    Parses (alt sequenceRange (map number fun n => (n, n))) e v (Starts seqMemberEnd) := by
  cases h with
  | single n e hn he => exact setSingle_enc _ _ hn he
  | range a b ea eb ha hb hea heb =>
    exact setRange_enc (fun a b => if a ≤ b then (a, b) else (b, a)) _ ha hb hea heb

theorem encSeqMember_head {v : Nat × Nat} {e : Bytes} (h : EncSeqMember v e) : Starts isDigit e := by
  cases h with
  | single n e _ he => exact encNumber_head he
  | range a b ea eb _ _ hea _ => exact (encNumber_head hea).append _

inductive EncSeqSet : List (Nat × Nat) → Bytes → Prop
  | mk (first : Bytes × (Nat × Nat)) (others : List (Bytes × (Nat × Nat))) :
      (∀ x ∈ first :: others, EncSeqMember x.2 x.1) →
      EncSeqSet (first.2 :: others.map (·.2)) (first.1 ++ (others.map fun x => b!"," ++ x.1).flatten)

theorem sequenceSet_enc {v : List (Nat × Nat)} {e : Bytes} (h : EncSeqSet v e) :
    Parses sequenceSet e v (Starts seqSetEnd) := by
  cases h with
  | mk first others hall => exact commaSet_enc first others fun y hy => seqMember_enc (hall y hy)

theorem encSeqSet_head {v : List (Nat × Nat)} {e : Bytes} (h : EncSeqSet v e) : Starts isDigit e := by
  cases h with
  | mk first others hall => exact (encSeqMember_head (hall first (by simp))).append _

/-! ### VANISHED -/

/-- the optional `SP (EARLIER)` marker -/
def earlierEnc : Option (Bytes × List Bool) → Bytes
  | some x => x.1 ++ spell (b!"(EARLIER)") x.2
  | none => []

theorem vanished_enc (m : List Bool) (earlier : Option (Bytes × List Bool)) (hw0 : ∀ x, earlier = some x → IsSpaces x.1)
    {w1 : Bytes} (hw1 : IsSpaces w1) {uids : List (Nat × Nat)} {eu : Bytes} (hu : EncSeqSet uids eu) :
    Parses respVanished
      (spell (b!"VANISHED") m ++ (earlierEnc earlier ++ (w1 ++ eu)))
      (.vanished earlier.isSome uids) (Starts seqSetEnd) := by
  have hd := encSeqSet_head hu
  have hsp := (space1_enc hw1).follow digit_notSpace
  have tail (b : Bool) : Parses (do space1; let uids ← sequenceSet; pure (Response.vanished b uids))
      (w1 ++ eu) (.vanished b uids) (Starts seqSetEnd) :=
    .bindS hsp hd ((sequenceSet_enc hu).last)
  refine .kw m ?_
  cases earlier with
  | none =>
    -- without the marker `space1` reads `w1`, and `(EARLIER)` fails at the first digit of the set
    refine .skipOpt (e := w1 ++ eu) (tail false) fun r _ => ?_
    rw [List.append_assoc]
    refine (bind_ok _ (hsp _ (hd.append r))).trans ?_
    exact (First.tagNoCase _).err_digit (by decide) (hd.append r)
  | some x =>
    exact .seq (.optSome (.sp (hw0 x rfl) ((spell_head 40 _ x.2).of_oneOf (by decide)) (tagNoCase_spell _ x.2)))
      (tail true)

/-! ### ID -/

inductive EncIdParam : Bytes × Option Bytes → Bytes → Prop
  | mk (k ek w : Bytes) (v : Option Bytes) (ev : Bytes) : EncString k ek → validUtf8 k = true → IsSpaces w →
      EncNString v ev → (∀ s, v = some s → validUtf8 s = true) → EncIdParam (k, v) (ek ++ (w ++ ev))

theorem idParam_enc {v : Bytes × Option Bytes} {e : Bytes} (h : EncIdParam v e) : Parses idParam e v Any := by
  cases h with
  | mk k ek w v ev hk hu hw hv huv =>
    exact .seq (stringUtf8_enc hk hu) <| .sp hw ((encNString_head hv).of_oneOf (by decide)) <|
      (nstringUtf8_enc hv huv).last

theorem encIdParam_notSpace {v : Bytes × Option Bytes} {e : Bytes} (h : EncIdParam v e) : Starts notSpace e := by
  cases h with
  | mk k ek _ _ _ hk _ _ _ _ => exact ((encString_head hk).of_oneOf (by decide)).append _

theorem idParam_first : First [.cls (· == 34), .word (b!"{")] idParam := .bind (.mapRes string_first)

/-- the parameter list: NIL, or `(` pairs separated by white space, optional white space, `)`;
    pairs whose value is NIL are dropped by the parser (they have no place in the crate's type) -/
inductive EncIdParams : Option (List (Bytes × Bytes)) → Bytes → Prop
  | nil (m : List Bool) : EncIdParams none (spell (b!"NIL") m)
  | some (first : Bytes × (Bytes × Option Bytes)) (items : List (Bytes × Bytes × (Bytes × Option Bytes))) (w0 : Bytes) :
      EncIdParam first.2 first.1 → (∀ x ∈ items, IsSpaces x.1 ∧ EncIdParam x.2.2 x.2.1) →
      (∀ c ∈ w0, isSpace c = true) →
      EncIdParams (some (idKeep (first.2 :: items.map (·.2.2))))
        ([40] ++ (first.1 ++ ((items.map fun x => x.1 ++ x.2.1).flatten ++ (w0 ++ [41]))))

theorem idParamList_enc {v : Option (List (Bytes × Bytes))} {e : Bytes} (h : EncIdParams v e) :
    Parses idParamList e v Any := by
  cases h with
  | nil m =>
    exact .altR (.map (nil_enc m)) fun rest _ =>
      (First.map (.bind (.char 40))).err_oneOf ((nil_head m).append rest) (by decide)
  | some first items w0 hfirst hitems hw0 =>
    -- a pair does not look ahead (`C` is every byte); the pairs end at optional white space and `)`
    exact .altL <| .map <| .seq (char_ok 40) <| .seq (idParam_enc hfirst) <|
      .bind
        (space1Items_enc (C := fun _ => true) (F := SpacesThen [41]) (fun h => (idParam_enc h).any)
          encIdParam_notSpace rfl (fun _ hr => hr.starts (by decide) rfl)
          (fun _ hr => hr.stop idParam_first (by decide) (by decide)) items hitems).1
        (.bindS ((space0_enc w0 hw0).followOf (bs := [41]) (by decide)) (.cons (by decide) [])
          ((char_ok 41).last).any)
        fun r _ => ⟨w0, [41] ++ r, hw0, List.append_assoc .., .cons (by decide) r⟩

theorem encIdParams_notSpace {v : Option (List (Bytes × Bytes))} {e : Bytes} (h : EncIdParams v e) :
    Starts notSpace e := by
  cases h with
  | nil m => exact (nil_head m).of_oneOf (by decide)
  | some _ _ _ _ _ _ => exact .cons (by decide) _

theorem respId_enc (m : List Bool) {w : Bytes} (hw : IsSpaces w) {v : Option (List (Bytes × Bytes))} {e : Bytes}
    (h : EncIdParams v e) : Parses respId (spell (b!"ID") m ++ (w ++ e)) (.id v) Any :=
  .kw m <| .sp hw (encIdParams_notSpace h) <| (idParamList_enc h).last

end RT
