/-
  `Builders.escape` / `quotedString` and an independent lexer of quoted strings: `escape` preserves UTF-8
  validity (it puts an ASCII byte in front of ASCII bytes only); the lexer inverts `escape`.
-/
import ImapVerif.Builders
import ImapVerif.Proofs.Utf8

open Bytes Builders Utf8

namespace Quoted

def isCRLF (c : UInt8) : Bool := c == 13 || c == 10

/-- independent lexer of the body of a quoted string (after the opening quote): reads up to the
    first unescaped `"`, undoing `\\` and `\"`; CR, LF and any other escape are lexical errors.
    Returns the unescaped content and what follows the closing quote. -/
def lexBody : Bytes → Option (Bytes × Bytes)
  | [] => none
  | c :: r =>
    if c == 34 then some ([], r)
    else if c == 92 then
      match r with
      | [] => none
      | d :: r' =>
        if d == 34 || d == 92 then (lexBody r').map fun (s, rest) => (d :: s, rest) else none
    else if isCRLF c then none
    else (lexBody r).map fun (s, rest) => (c :: s, rest)

def lexQuoted : Bytes → Option (Bytes × Bytes)
  | 34 :: r => lexBody r
  | _ => none

/-- the equation lemmas Lean derives for `lexBody` split the tail as well; this one does not -/
theorem lexBody_cons (c : UInt8) (r : Bytes) :
    lexBody (c :: r) =
      if c == 34 then some ([], r)
      else if c == 92 then
        match r with
        | [] => none
        | d :: r' =>
          if d == 34 || d == 92 then (lexBody r').map fun (s, rest) => (d :: s, rest) else none
      else if isCRLF c then none
      else (lexBody r).map fun (s, rest) => (c :: s, rest) := by
  rw [lexBody.eq_def]
  rfl

theorem lexBody_escape (s rest : Bytes) (h : ∀ c ∈ s, isCRLF c = false) :
    lexBody (escape s ++ 34 :: rest) = some (s, rest) := by
  induction s with
  | nil => exact lexBody_cons 34 rest
  | cons c r ih =>
    rw [List.forall_mem_cons] at h
    rw [escape]
    split
    next hq =>
      rw [Bool.or_comm] at hq
      simp [lexBody_cons 92, hq, ih h.2]
    next hq =>
      rw [Bool.not_eq_true, Bool.or_eq_false_iff] at hq
      simp [lexBody_cons c, hq, h.1, ih h.2]

theorem escape_no_crlf (s : Bytes) (h : ∀ c ∈ s, isCRLF c = false) : ∀ c ∈ escape s, isCRLF c = false := by
  induction s with
  | nil => exact h
  | cons x r ih =>
    rw [List.forall_mem_cons] at h
    rw [escape]
    split
    · exact List.forall_mem_cons.2 ⟨by decide, List.forall_mem_cons.2 ⟨h.1, ih h.2⟩⟩
    · exact List.forall_mem_cons.2 ⟨h.1, ih h.2⟩

/-- the builder's own test, as a statement about the text -/
theorem any_crlf_false (s : Bytes) :
    s.any (fun c => c == 13 || c == 10) = false ↔ ∀ c ∈ s, isCRLF c = false := by
  simp only [List.any_eq_false, Bool.not_eq_true]
  rfl

/-! ### `escape` preserves UTF-8 validity (so `String::from_utf8(new).unwrap()` cannot fire) -/

theorem high_not_special (a : UInt8) (h : 0x80 ≤ a) : (a == 92 || a == 34) = false := by
  simp only [Bool.or_eq_false_iff, beq_eq_false_iff_ne]
  constructor <;> rintro rfl <;> exact absurd h (by decide)

theorem escape_high (p r : Bytes) (h : ∀ x ∈ p, 0x80 ≤ x) : escape (p ++ r) = p ++ escape r := by
  induction p with
  | nil => rfl
  | cons x p ih =>
    simp only [List.cons_append, escape, high_not_special x (h x (by simp)), Bool.false_eq_true, if_false,
      ih fun y hy => h y (by simp [hy])]

/-- escaping inserts an ASCII byte before ASCII bytes only, so it keeps every scalar value whole -/
theorem wf_escape (b : Bytes) (hw : WF b) : WF (escape b) := by
  induction hw with
  | nil => exact WF.nil
  | step b cp r hd _ ih =>
    obtain ⟨p, rfl, -, hp, ⟨a, rfl, ha⟩ | hhigh⟩ := decodeOne_split hd
    · simp only [List.cons_append, List.nil_append, escape]
      split
      · exact .ascii_cons (by decide) (.ascii_cons ha ih)
      · exact .ascii_cons ha ih
    · rw [escape_high p r hhigh]
      exact WF.step _ cp _ (hp _) ih

theorem escape_utf8 (s : Bytes) (h : validUtf8 s = true) : validUtf8 (escape s) = true :=
  (validUtf8_iff_wf _).mpr (wf_escape s ((validUtf8_iff_wf s).mp h))

end Quoted
