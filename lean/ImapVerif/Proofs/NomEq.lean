/-
  Lemmas about the combinator model of `Nom.lean`, independent of any property.

  * `List.takeWhile` / `dropWhile` on a run followed by a stop element;
  * the derived combinators as terms over `pure`, `errP`, `panicP`, `>>=`, `alt`, `Option.elim`, `tag`,
    `takeWhile` and the two loops (`many0From`, `sepFrom`): a class of parsers closed under these gets its
    instances for the derived combinators by rewriting with these equations.  (A right-hand side may use
    whatever has an instance by hand in every class: `Stable.lean` and `LineSafe.lean` list theirs.  Sequencing,
    choice on Error and mapping of values can be written this way; a combinator that gives consumed input back
    or returns it, like `Gen.recognize`, cannot and needs instances of its own.)
  * `tag` on a keyword in two parts, and exact matching as a refinement of matching without case;
  * a verdict of the first parser carried forwards through `>>=`, `map`, `mapRes`, and what an accept or an
    Incomplete of a combinator says about its argument.
-/
import ImapVerif.Nom

theorem List.span_stop {f : α → Bool} {s : List α} {c : α} (r : List α) (hs : ∀ x ∈ s, f x = true)
    (hc : f c = false) : (s ++ c :: r).takeWhile f = s ∧ (s ++ c :: r).dropWhile f = c :: r := by
  rw [List.takeWhile_append_of_pos hs, List.dropWhile_append_of_pos hs]
  simp [hc]

theorem List.dropWhile_eq_cons {f : α → Bool} {b : List α} {c : α} {r : List α} (h : b.dropWhile f = c :: r) :
    b = b.takeWhile f ++ c :: r ∧ (∀ x ∈ b.takeWhile f, f x = true) ∧ f c = false := by
  refine ⟨by rw [← h, List.takeWhile_append_dropWhile], List.all_eq_true.mp List.all_takeWhile, ?_⟩
  have := List.head_dropWhile_not f (l := b) (by rw [h]; simp)
  simpa [h] using this

theorem List.dropWhile_eq_nil {f : α → Bool} {b : List α} (h : b.dropWhile f = []) : ∀ x ∈ b, f x = true := by
  have := List.takeWhile_append_dropWhile (p := f) (l := b)
  rw [h, List.append_nil] at this
  rw [← this]
  exact List.all_eq_true.mp List.all_takeWhile

open Bytes

namespace Parser

theorem bind_def (p : Parser α) (f : α → Parser β) : (p >>= f) = bindP p f := rfl
theorem pure_def (a : α) : (pure a : Parser α) = pureP a := rfl

theorem map_eq (p : Parser α) (f : α → β) : map p f = p >>= fun a => pure (f a) := rfl

theorem mapRes_eq (p : Parser α) (f : α → Option β) : mapRes p f = p >>= fun a => (f a).elim errP pure := by
  funext i; simp only [mapRes, bind_def, bindP]; cases p i <;> try rfl
  next v r => dsimp only; cases f v <;> rfl

theorem mapPanic_eq (p : Parser α) (f : α → Option β) :
    mapPanic p f = p >>= fun a => (f a).elim panicP pure := by
  funext i; simp only [mapPanic, bind_def, bindP]; cases p i <;> try rfl
  next v r => dsimp only; cases f v <;> rfl

theorem opt_eq (p : Parser α) : opt p = alt (map p some) (pure none) := by
  funext i; simp only [opt, alt, map]; cases p i <;> rfl

theorem optOpt_eq (p : Parser (Option α)) : optOpt p = alt p (pure none) := by
  funext i; simp only [optOpt, alt]; cases p i <;> rfl

theorem space0_eq : space0 = map (takeWhile isSpace) fun _ => () := by
  funext i; simp only [space0, map]; cases takeWhile isSpace i <;> rfl
theorem space1_eq : space1 = map (takeWhile1 isSpace) fun _ => () := by
  funext i; simp only [space1, map]; cases takeWhile1 isSpace i <;> rfl

theorem takeWhile1_eq (f : UInt8 → Bool) :
    takeWhile1 f = mapRes (takeWhile f) fun v => if v = [] then none else some v := by
  funext i; simp only [takeWhile1, mapRes, takeWhile]
  cases i.dropWhile f <;> try rfl
  cases i.takeWhile f <;> rfl

theorem char_eq (c : UInt8) : char c = tag [c] := by
  funext i; cases i <;> simp only [char, tag, tagGo]
  next x r => rw [Bool.beq_comm]

/-- the `many0` loop as a parser: accumulated values `acc`, fuel from the input -/
def many0From (p : Parser α) (acc : List α) : Parser (List α) := fun i => many0Go p (i.length + 1) i acc
/-- the `separated_list` loop as a parser -/
def sepFrom (sep : Parser Unit) (p : Parser α) (acc : List α) : Parser (List α) :=
  fun i => sepGo sep p (i.length + 1) i acc

theorem many0_eq (p : Parser α) : many0 p = many0From p [] := rfl
theorem many1_eq (p : Parser α) : many1 p = p >>= fun v => many0From p [v] := by
  funext i; simp only [many1, bind_def, bindP]; cases p i <;> rfl
theorem sepList1_eq (sep : Parser Unit) (p : Parser α) :
    sepList1 sep p = p >>= fun v => sepFrom sep p [v] := by
  funext i; simp only [sepList1, bind_def, bindP]; cases p i <;> rfl
theorem sepList0_eq (sep : Parser Unit) (p : Parser α) :
    sepList0 sep p = opt p >>= fun o => o.elim (pure []) fun v => sepFrom sep p [v] := by
  funext i; simp only [sepList0, opt, bind_def, bindP]; cases p i <;> rfl

theorem tagGo_append (eq : UInt8 → UInt8 → Bool) (t k i : Bytes) :
    tagGo eq (t ++ k) i = bindP (tagGo eq t) (fun _ => tagGo eq k) i := by
  unfold bindP
  induction t generalizing i with
  | nil => simp [tagGo]
  | cons a t ih =>
    cases i with
    | nil => cases k <;> simp [tagGo]
    | cons x i =>
      simp only [List.cons_append, tagGo]
      split
      · exact ih i
      · rfl

theorem tag_refines (t i : Bytes) : tag t i = .err ∨ tag t i = tagNoCase t i := by
  induction t generalizing i with
  | nil => exact .inr rfl
  | cons a t ih =>
    cases i with
    | nil => exact .inr rfl
    | cons x i =>
      simp only [tag, tagNoCase, tagGo]
      by_cases hax : a = x
      · subst hax; simpa [tag, tagNoCase] using ih i
      · simp [hax]

theorem bind_ok {p : Parser α} (f : α → Parser β) {i r : Bytes} {v : α} (h : p i = .ok v r) :
    (p >>= f) i = f v r := by
  simp only [bind_def, bindP, h]

theorem bind_err {p : Parser α} (f : α → Parser β) {i : Bytes} (h : p i = .err) : (p >>= f) i = .err := by
  simp only [bind_def, bindP, h]

theorem map_err {p : Parser α} (g : α → β) {i : Bytes} (h : p i = .err) : map p g i = .err := by
  simp only [map, h]

theorem mapRes_err {p : Parser α} (g : α → Option β) {i : Bytes} (h : p i = .err) : mapRes p g i = .err := by
  simp only [mapRes, h]

theorem bind_eq_ok {p : Parser α} {f : α → Parser β} (h : (p >>= f) b = .ok w r) :
    ∃ v r1, p b = .ok v r1 ∧ f v r1 = .ok w r := by
  simp only [bind_def, bindP] at h
  cases hp : p b with rw [hp] at h
  | ok v r1 => exact ⟨v, r1, rfl, h⟩
  | _ => cases h

theorem bind_eq_inc {p : Parser α} {f : α → Parser β} (h : (p >>= f) b = .inc) :
    p b = .inc ∨ ∃ v r1, p b = .ok v r1 ∧ f v r1 = .inc := by
  simp only [bind_def, bindP] at h
  cases hp : p b with rw [hp] at h
  | ok v r1 => exact .inr ⟨v, r1, rfl, h⟩
  | inc => exact .inl rfl
  | _ => cases h

theorem mapRes_eq_ok {p : Parser α} {f : α → Option β} (h : mapRes p f b = .ok w r) :
    ∃ v, p b = .ok v r ∧ f v = some w := by
  rw [mapRes_eq] at h
  obtain ⟨v, r1, hp, hf⟩ := bind_eq_ok h
  cases hv : f v with rw [hv] at hf
  | none => cases hf
  | some w' => cases hf; exact ⟨v, hp, hv⟩

theorem tag_eq_ok : ∀ {t b : Bytes}, tag t b = .ok u r → b = t ++ r
  | [], _, h => by cases h; rfl
  | _ :: _, [], h => by cases h
  | y :: ys, c :: cs, h => by
    simp only [tag, tagGo] at h
    split at h
    · next hyc => rw [eq_of_beq hyc, tag_eq_ok (t := ys) h]; rfl
    · cases h

theorem tag_eq_inc : ∀ {t b : Bytes}, tag t b = .inc → ∃ y, y ≠ [] ∧ t = b ++ y
  | [], _, h => by cases h
  | y :: ys, [], _ => ⟨y :: ys, by simp, rfl⟩
  | y :: ys, c :: cs, h => by
    simp only [tag, tagGo] at h
    split at h
    · next hyc =>
      obtain ⟨z, hz, rfl⟩ := tag_eq_inc (t := ys) h
      exact ⟨z, hz, by rw [eq_of_beq hyc]; rfl⟩
    · cases h

theorem take_eq_ok (h : take n b = .ok v r) : b = v ++ r ∧ v.length = n := by
  simp only [take] at h
  split at h
  · cases h
  · cases h; exact ⟨(List.take_append_drop n b).symm, List.length_take_of_le (by omega)⟩

theorem take_eq_inc (h : take n b = .inc) : b.length < n := by
  simp only [take] at h
  split at h
  · assumption
  · cases h

theorem takeWhile_stop {f : UInt8 → Bool} {s : Bytes} {c : UInt8} (r : Bytes)
    (hs : ∀ x ∈ s, f x = true) (hc : f c = false) : takeWhile f (s ++ c :: r) = .ok s (c :: r) := by
  obtain ⟨h1, h2⟩ := List.span_stop r hs hc
  simp only [takeWhile, h1, h2]

theorem takeWhile_eq_ok {f : UInt8 → Bool} (h : takeWhile f b = .ok s t) :
    b = s ++ t ∧ (∀ x ∈ s, f x = true) ∧ ∃ c r, t = c :: r ∧ f c = false := by
  simp only [takeWhile] at h
  split at h
  · cases h
  · next c r hd =>
    cases h
    obtain ⟨e, hs, hc⟩ := List.dropWhile_eq_cons hd
    exact ⟨e, hs, c, r, rfl, hc⟩

theorem takeWhile_eq_inc {f : UInt8 → Bool} (h : takeWhile f b = .inc) : ∀ x ∈ b, f x = true := by
  simp only [takeWhile] at h
  split at h
  · next hd => exact List.dropWhile_eq_nil hd
  · cases h

theorem takeWhile1_eq_ok {f : UInt8 → Bool} (h : takeWhile1 f b = .ok s t) :
    s ≠ [] ∧ b = s ++ t ∧ (∀ x ∈ s, f x = true) ∧ ∃ c r, t = c :: r ∧ f c = false := by
  rw [takeWhile1_eq] at h
  obtain ⟨v, hv, hs⟩ := mapRes_eq_ok h
  split at hs <;> cases hs
  exact ⟨‹_›, takeWhile_eq_ok hv⟩

theorem escapedGo_cons (normal : UInt8 → Bool) (acc : Bytes) (c : UInt8) (r : Bytes) :
    escapedGo normal acc (c :: r) =
      if normal c = true then escapedGo normal (c :: acc) r
      else if (c == 92) = true then
        match r with
        | [] => Res.inc
        | d :: r' => if (d == 92 || d == 34) = true then escapedGo normal (d :: c :: acc) r' else Res.err
      else Res.ok (List.reverse acc) (c :: r) := by
  rw [escapedGo.eq_def]
  rfl

end Parser
