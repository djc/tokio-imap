/-
  Decimal conversion lemmas and the three facts about `numberB` (the model of `number`/`number_64`):
  sound (what is accepted is exactly the value of the digits consumed, and below the bound),
  complete (every in-range numeral, with any zero padding, is accepted with exactly its value),
  rejecting (every out-of-range numeral is `Err::Error`; nothing wraps).
-/
import ImapVerif.Grammar.Core
import ImapVerif.Proofs.NomEq

open Bytes Parser Grammar

namespace Num

theorem digitVal_digitOf (k : Nat) (h : k < 10) : digitVal (digitOf k) = k := by
  rw [digitVal, digitOf, UInt8.toNat_ofNat', Nat.mod_eq_of_lt (by omega), Nat.add_sub_cancel_left]

theorem isDigit_digitOf : ∀ k, k < 10 → isDigit (digitOf k) = true := by decide

theorem decVal_append_single (a : Bytes) (d : UInt8) : decVal (a ++ [d]) = decVal a * 10 + digitVal d := by
  simp [decVal, List.foldl_append]

theorem decVal_decDigits (n : Nat) : decVal (decDigits n) = n := by
  fun_induction decDigits n with
  | case1 n h => simp [decVal, digitVal_digitOf n h]
  | case2 n h ih =>
    rw [decVal_append_single, ih, digitVal_digitOf _ (Nat.mod_lt _ (by omega))]
    omega

theorem decDigits_all (n : Nat) : ∀ d ∈ decDigits n, isDigit d = true := by
  fun_induction decDigits n with
  | case1 n h => exact List.forall_mem_singleton.2 (isDigit_digitOf n h)
  | case2 n h ih =>
    exact List.forall_mem_append.2
      ⟨ih, List.forall_mem_singleton.2 (isDigit_digitOf _ (Nat.mod_lt _ (by omega)))⟩

theorem decDigits_ne_nil (n : Nat) : decDigits n ≠ [] := by
  rw [decDigits]; split <;> simp

/-- a leading `0` leaves the fold's accumulator at `0 * 10 + digitVal 48`, which reduces to `0` -/
theorem decVal_zeros (z : Nat) (ds : Bytes) : decVal (List.replicate z 48 ++ ds) = decVal ds := by
  induction z with
  | zero => rfl
  | succ z ih => exact ih

theorem numberB_eval (bound : Nat) (ds : Bytes) (hne : ds ≠ []) (hall : ∀ d ∈ ds, isDigit d = true)
    (c : UInt8) (r : Bytes) (hc : isDigit c = false) :
    numberB bound (ds ++ c :: r) =
      if decVal ds < bound then .ok (decVal ds) (c :: r) else .err := by
  simp only [numberB, takeWhile1_eq, mapRes, takeWhile_stop r hall hc, if_neg hne]
  by_cases hlt : decVal ds < bound
  · simp only [if_pos hlt]
  · simp only [if_neg hlt]

theorem numberB_complete (bound n z : Nat) (hn : n < bound) (c : UInt8) (r : Bytes)
    (hc : isDigit c = false) :
    numberB bound (List.replicate z 48 ++ decDigits n ++ c :: r) = .ok n (c :: r) := by
  have hall : ∀ d ∈ List.replicate z 48 ++ decDigits n, isDigit d = true :=
    List.forall_mem_append.2 ⟨fun d hd => List.eq_of_mem_replicate hd ▸ rfl, decDigits_all n⟩
  rw [numberB_eval bound _ (by simp [decDigits_ne_nil]) hall c r hc, decVal_zeros, decVal_decDigits,
    if_pos hn]

theorem numberB_rejects (bound : Nat) (ds : Bytes) (hall : ∀ d ∈ ds, isDigit d = true)
    (hbig : bound ≤ decVal ds) (c : UInt8) (r : Bytes) (hc : isDigit c = false) :
    numberB bound (ds ++ c :: r) = .err := by
  cases ds with
  | nil => simp [numberB, mapRes, takeWhile1, hc]
  | cons d ds => rw [numberB_eval bound _ (List.cons_ne_nil d ds) hall c r hc, if_neg (by omega)]

theorem numberB_sound {bound : Nat} {b : Bytes} {n : Nat} {r : Bytes} (h : numberB bound b = .ok n r) :
    ∃ ds, b = ds ++ r ∧ ds ≠ [] ∧ (∀ d ∈ ds, isDigit d = true) ∧ decVal ds = n ∧ n < bound ∧
      ∃ c r', r = c :: r' ∧ isDigit c = false := by
  obtain ⟨ds, hds, hg⟩ := mapRes_eq_ok h
  obtain ⟨hne, rfl, hall, c, r', rfl, hc⟩ := takeWhile1_eq_ok hds
  split at hg <;> cases hg
  exact ⟨ds, rfl, hne, hall, rfl, ‹_›, c, r', rfl, hc⟩

end Num
