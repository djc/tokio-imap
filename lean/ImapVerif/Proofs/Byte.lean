/-
  Facts about single bytes.  A statement `∀ c : UInt8, P c` with decidable `P` is a table of 256
  rows; the instance below lets the kernel evaluate it (`by decide +kernel`).  Its priority is low
  so that `∀ c ∈ l, P c` over a list of bytes is still decided by walking the list.
-/
import ImapVerif.Grammar.Core

open Bytes Grammar

instance (priority := low) UInt8.decidableForall (P : UInt8 → Prop) [DecidablePred P] : Decidable (∀ c, P c) :=
  decidable_of_iff (∀ n : Fin 256, P (UInt8.ofNat n.val))
    ⟨fun h c => by simpa using h ⟨c.toNat, c.toNat_lt⟩, fun h n => h _⟩

namespace Bytes

/-- a byte of a class differs from any byte outside it: one evaluation, not a table of 256 rows -/
theorem ne_of_class {P : UInt8 → Bool} {b c : UInt8} (hc : P c = true) (hb : P b = false) : (b == c) = false := by
  cases h : b == c
  · rfl
  · rw [← eq_of_beq h, hb] at hc; cases hc

theorem lower_digit (c : UInt8) (h : isDigit c = true) : lower c = c := by
  simp only [isDigit, Bool.and_eq_true, decide_eq_true_eq] at h
  exact if_neg fun hc => absurd (UInt8.le_trans hc.1 h.2) (by decide)

end Bytes

namespace Grammar

theorem char_ascii (c : UInt8) (h : isChar c = true) : c < 0x80 := by
  simp only [isChar, Bool.and_eq_true, decide_eq_true_eq] at h
  exact UInt8.lt_of_le_of_lt h.2 (by decide)

theorem textChar_ascii (c : UInt8) (h : isTextChar c = true) : c < 0x80 := by
  simp only [isTextChar, Bool.and_eq_true] at h
  exact char_ascii c h.1.1

theorem astringChar_ascii (c : UInt8) (h : isAstringChar c = true) : c < 0x80 := by
  simp only [isAstringChar, isAtomChar, isRespSpecials, Bool.or_eq_true, Bool.and_eq_true, beq_iff_eq] at h
  rcases h with h | rfl
  · exact char_ascii c h.1
  · decide

/-- a TEXT-CHAR is not a UTF-8 continuation byte: text may be cut in front of it -/
theorem textChar_notCont (c : UInt8) (h : isTextChar c = true) : isCont c = false := by
  simp [isCont, UInt8.not_le.2 (textChar_ascii c h)]

end Grammar
