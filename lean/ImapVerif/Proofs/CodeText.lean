/-
  C13 at response level: a numeric response code whose numeral does not fit the field is not a code
  at all - the bracketed text is returned as human-readable text, unchanged; the number is never
  wrapped or truncated.
-/
import ImapVerif.Proofs.RT.Codes

open Bytes Parser Grammar

namespace RT

theorem kwNumber_overflow {β : Type} (kw : Bytes) (g : Nat → β) (bound : Nat) (m : List Bool) (ds : Bytes)
    (hall : ∀ d ∈ ds, isDigit d = true) (hbig : bound ≤ decVal ds) (c : UInt8) (r : Bytes) (hc : isDigit c = false) :
    (do tagNoCase kw; let n ← numberB bound; pure (g n) : Parser β) (spell kw m ++ (ds ++ c :: r)) = .err :=
  kwBind_err_after _ _ m _ (bind_err _ (Num.numberB_rejects bound ds hall hbig c r hc))

/-- the numeric codes of RFC 3501 and RFC 4551 whose field is a plain number; the two of RFC 5464
    (METADATA LONGENTRIES / MAXSIZE) are left out -/
inductive NumCode | uidValidity | uidNext | unseen | highestModSeq
deriving DecidableEq

def NumCode.kw : NumCode → Bytes
  | .uidValidity => b!"UIDVALIDITY " | .uidNext => b!"UIDNEXT " | .unseen => b!"UNSEEN "
  | .highestModSeq => b!"HIGHESTMODSEQ "

def NumCode.bound : NumCode → Nat
  | .highestModSeq => 2 ^ 64
  | _ => 2 ^ 32

/-- **an out-of-range numeral makes the whole code fail**: no alternative of `resp_text_code` accepts
    `K SP digits ]` when the digits denote a number beyond the field's range -/
theorem respTextCodeAlt_overflow (k : NumCode) (m : List Bool) (ds : Bytes)
    (hall : ∀ d ∈ ds, isDigit d = true) (hbig : k.bound ≤ decVal ds) (r : Bytes) :
    respTextCodeAlt (spell k.kw m ++ (ds ++ 93 :: r)) = .err := by
  -- the row of `K` fails at the number; no other row begins with a spelling of `K`
  have T := respTextCodeAlt_chain
  have num {g} := kwNumber_overflow (β := ResponseCode) k.kw g k.bound m ds hall hbig 93 r (by decide)
  cases k with
  | uidValidity => exact T.err_kw_but rfl (by decide) num
  | uidNext => exact T.err_kw_but rfl (by decide) num
  | unseen => exact T.err_kw_but rfl (by decide) num
  | highestModSeq => exact T.err_kw_but rfl (by decide) num

/-- the digits lie within CHAR, and neither CR nor LF is one -/
theorem digit_isText (c : UInt8) (h : isDigit c = true) : isTextChar c = true := by
  have h13 := ne_of_class h (b := 13) rfl
  have h10 := ne_of_class h (b := 10) rfl
  simp only [isDigit, Bool.and_eq_true, decide_eq_true_eq] at h
  simp only [isTextChar, isChar, Bool.and_eq_true, decide_eq_true_eq, bne_iff_ne, ne_eq]
  exact ⟨⟨⟨UInt8.le_trans (by decide) h.1, UInt8.le_trans h.2 (by decide)⟩, fun e => by simp [e] at h13⟩,
    fun e => by simp [e] at h10⟩

/-- **the code is left as text**: `[K digits] text` with an out-of-range numeral is parsed as
    human-readable text - the complete bracketed string, byte for byte - with no code -/
theorem respText_overflow_is_text (k : NumCode) (m : List Bool) (ds : Bytes)
    (hall : ∀ d ∈ ds, isDigit d = true) (hbig : k.bound ≤ decVal ds) {t : Bytes} (ht : IsText t)
    {rest : Bytes} (hr : Starts notTextChar rest) :
    respText (b!"[" ++ (spell k.kw m ++ (ds ++ (b!"]" ++ t))) ++ rest)
      = .ok (none, some (b!"[" ++ (spell k.kw m ++ (ds ++ (b!"]" ++ t))))) rest := by
  have hkw : ∀ c ∈ k.kw, isTextChar c = true ∧ isTextChar (flipCase c) = true := by
    cases k <;> (unfold NumCode.kw; decide)
  have hwhole : IsText (b!"[" ++ (spell k.kw m ++ (ds ++ (b!"]" ++ t)))) :=
    List.forall_mem_append.2 ⟨by decide,
      List.forall_mem_append.2 ⟨spell_all_mem _ m hkw,
        List.forall_mem_append.2 ⟨fun c hc => digit_isText c (hall c hc),
          List.forall_mem_append.2 ⟨by decide, ht⟩⟩⟩⟩
  refine respText_text (by simp) hwhole (fun r => ?_) rest hr
  -- after `[` the code fails as a whole: no code is read
  have := respTextCodeAlt_overflow k m ds hall hbig (t ++ r)
  simp only [List.append_assoc]
  exact (bind_ok _ (tag_ok (b!"[") _ trivial)).trans (bind_err _ this)

end RT
