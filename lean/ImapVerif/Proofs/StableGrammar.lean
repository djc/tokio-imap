/-
  `Stable` for every function of the grammar model, by instance search over its definition.
  By hand: `entryName` (uses `checkEntryName_total`), the shape of `respText` (`instRespTextShape`: the
  `&text[1..]` slice cannot panic because `text` is 7-bit), and the inductions over the nesting budget of
  `bodyExtension` and `bodyNested`.
-/
import ImapVerif.Proofs.Stable
import ImapVerif.Proofs.Byte
import ImapVerif.Proofs.EntryName
import ImapVerif.Grammar.Rfc3501

open Bytes Parser Grammar

namespace Stable

/-! ### core.rs, and `mailbox` / `flag` of rfc3501/mod.rs -/

instance : Stable (numberB n) := by unfold numberB; infer_instance
instance : Stable number := by unfold number; infer_instance
instance : Stable number64 := by unfold number64; infer_instance
instance : Stable sequenceRange := by unfold sequenceRange; infer_instance
instance : Stable sequenceSet := by unfold sequenceSet; infer_instance
instance : Stable quoted := by unfold quoted; infer_instance
instance : Stable quotedUtf8 := by unfold quotedUtf8; infer_instance
instance : Stable literal := by unfold literal; infer_instance
instance : Stable string := by unfold string; infer_instance
instance : Stable stringUtf8 := by unfold stringUtf8; infer_instance
instance : Stable astring := by unfold astring; infer_instance
instance : Stable astringUtf8 := by unfold astringUtf8; infer_instance
instance : Stable atom := by unfold atom; infer_instance
instance : Stable nil := by unfold nil; infer_instance
instance : Stable nstring := by unfold nstring; infer_instance
instance : Stable nstringUtf8 := by unfold nstringUtf8; infer_instance
instance : Stable text := by unfold text; infer_instance
instance (p : Parser α) [Stable p] : Stable (parenDelimited p) := by unfold parenDelimited; infer_instance
instance (p : Parser α) [Stable p] : Stable (parenthesizedNonemptyList p) := by
  unfold parenthesizedNonemptyList; infer_instance
instance (p : Parser α) [Stable p] : Stable (parenthesizedList p) := by
  unfold parenthesizedList; infer_instance
instance : Stable mailbox := by unfold mailbox; infer_instance
instance : Stable flagExtension := by unfold flagExtension; infer_instance
instance : Stable flag := by unfold flag; infer_instance

/-! ### extensions -/

instance : Stable quotaResourceName := by unfold quotaResourceName; infer_instance
instance : Stable quotaResource := by unfold quotaResource; infer_instance
instance : Stable quotaList := by unfold quotaList; infer_instance
instance : Stable quota := by unfold quota; infer_instance
instance : Stable quotaRoot := by unfold quotaRoot; infer_instance
instance : Stable idParam := by unfold idParam; infer_instance
instance : Stable idParamListNotNil := by unfold idParamListNotNil; infer_instance
instance : Stable idParamList := by unfold idParamList; infer_instance
instance : Stable respId := by unfold respId; infer_instance
instance : Stable aclEntry := by unfold aclEntry; infer_instance
instance : Stable aclList := by unfold aclList; infer_instance
instance : Stable acl := by unfold acl; infer_instance
instance : Stable listRightsOptional := by unfold listRightsOptional; infer_instance
instance : Stable listRights := by unfold listRights; infer_instance
instance : Stable myRights := by unfold myRights; infer_instance
instance : Stable uidRange := by unfold uidRange; infer_instance
instance : Stable uidSet := by unfold uidSet; infer_instance
instance : Stable respTextCodeAppendUid := by unfold respTextCodeAppendUid; infer_instance
instance : Stable respTextCodeCopyUid := by unfold respTextCodeCopyUid; infer_instance
instance : Stable respTextCodeUidNotSticky := by unfold respTextCodeUidNotSticky; infer_instance
instance : Stable respTextCodeHighestModSeq := by unfold respTextCodeHighestModSeq; infer_instance
instance : Stable statusAttValHighestModSeq := by unfold statusAttValHighestModSeq; infer_instance
instance : Stable msgAttModSeq := by unfold msgAttModSeq; infer_instance
instance : Stable enabledData := by unfold enabledData; infer_instance
instance : Stable respEnabled := by unfold respEnabled; infer_instance
instance : Stable mailboxDataSort := by unfold mailboxDataSort; infer_instance

/-- `entry_name`: the continuation after `astring` never takes the panic branches -/
instance : Stable entryName := by
  unfold entryName
  refine @instBind _ _ _ _ inferInstance (fun s => ?_)
  rcases EntryName.checkEntryName_total s with h | h <;> simp only [h] <;> infer_instance
instance : Stable nilValue := by unfold nilValue; infer_instance
instance : Stable stringValue := by unfold stringValue; infer_instance
instance : Stable keyvalList := by unfold keyvalList; infer_instance
instance : Stable entryList := by unfold entryList; infer_instance
instance : Stable metadataCommon := by unfold metadataCommon; infer_instance
instance : Stable metadataSolicited := by unfold metadataSolicited; infer_instance
instance : Stable metadataUnsolicited := by unfold metadataUnsolicited; infer_instance
instance : Stable respTextCodeMetadataLongEntries := by unfold respTextCodeMetadataLongEntries; infer_instance
instance : Stable respTextCodeMetadataMaxSize := by unfold respTextCodeMetadataMaxSize; infer_instance
instance : Stable respTextCodeMetadataTooMany := by unfold respTextCodeMetadataTooMany; infer_instance
instance : Stable respTextCodeMetadataNoPrivate := by unfold respTextCodeMetadataNoPrivate; infer_instance
instance : Stable respVanished := by unfold respVanished; infer_instance
instance : Stable gmailLabelList := by unfold gmailLabelList; infer_instance
instance : Stable msgAttGmailLabels := by unfold msgAttGmailLabels; infer_instance
instance : Stable mailboxDataGmailLabels := by unfold mailboxDataGmailLabels; infer_instance
instance : Stable gmailMsgId := by unfold gmailMsgId; infer_instance
instance : Stable msgAttGmailMsgId := by unfold msgAttGmailMsgId; infer_instance
instance : Stable mailboxDataGmailMsgId := by unfold mailboxDataGmailMsgId; infer_instance

/-! ### envelope, body.rs, body_structure.rs -/

instance : Stable address := by unfold address; infer_instance
instance : Stable optAddresses := by unfold optAddresses; infer_instance
instance : Stable envelope := by unfold envelope; infer_instance
instance : Stable sectionPart := by unfold sectionPart; infer_instance
instance : Stable sectionMsgtext := by unfold sectionMsgtext; infer_instance
instance : Stable sectionText := by unfold sectionText; infer_instance
instance : Stable sectionSpec := by unfold sectionSpec; infer_instance
instance : Stable section_ := by unfold section_; infer_instance
instance : Stable msgAttBodySection := by unfold msgAttBodySection; infer_instance
instance : Stable bodyParam := by unfold bodyParam; infer_instance
instance : Stable bodyEncoding := by unfold bodyEncoding; infer_instance
instance : Stable bodyLang := by unfold bodyLang; infer_instance
instance : Stable bodyDisposition := by unfold bodyDisposition; infer_instance
instance : Stable bodyFields := by unfold bodyFields; infer_instance

instance instBodyExtension : ∀ n, Stable (bodyExtension n)
  | 0 => by unfold bodyExtension; infer_instance
  | n + 1 => by
    have := instBodyExtension n
    unfold bodyExtension; infer_instance

instance : Stable (bodyExt1Part n) := by unfold bodyExt1Part; infer_instance
instance : Stable (bodyExtMPart n) := by unfold bodyExtMPart; infer_instance
instance : Stable (bodyTypeBasic n) := by unfold bodyTypeBasic; infer_instance
instance : Stable (bodyTypeText n) := by unfold bodyTypeText; infer_instance
instance (child : Parser BodyStructure) [Stable child] : Stable (bodyTypeMessage child n) := by
  unfold bodyTypeMessage; infer_instance
instance (child : Parser BodyStructure) [Stable child] : Stable (bodyTypeMultipart child n) := by
  unfold bodyTypeMultipart; infer_instance

instance instBodyNested : ∀ n, Stable (bodyNested n)
  | 0 => by unfold bodyNested; infer_instance
  | n + 1 => by
    have := instBodyNested n
    unfold bodyNested; infer_instance

instance : Stable body := by unfold body; infer_instance
instance : Stable msgAttBodyStructure := by unfold msgAttBodyStructure; infer_instance
instance : Stable msgAttBody := by unfold msgAttBody; infer_instance

/-! ### rfc3501/mod.rs -/

instance : Stable statusP := by unfold statusP; infer_instance
instance : Stable flagPerm := by unfold flagPerm; infer_instance
instance : Stable flagList := by unfold flagList; infer_instance
instance : Stable capability := by unfold capability; infer_instance
instance : Stable capabilityData := by unfold capabilityData; infer_instance
instance : Stable respTextCodeBadCharset := by unfold respTextCodeBadCharset; infer_instance
instance : Stable respTextCodePermanentFlags := by unfold respTextCodePermanentFlags; infer_instance
instance : Stable respTextCodeUidValidity := by unfold respTextCodeUidValidity; infer_instance
instance : Stable respTextCodeUidNext := by unfold respTextCodeUidNext; infer_instance
instance : Stable respTextCodeUnseen := by unfold respTextCodeUnseen; infer_instance
instance : Stable respTextCodeAlt := by unfold respTextCodeAlt; infer_instance
instance : Stable respTextCode := by unfold respTextCode; infer_instance
instance : Stable mailboxDataSearch := by unfold mailboxDataSearch; infer_instance
instance : Stable mailboxDataFlags := by unfold mailboxDataFlags; infer_instance
instance : Stable mailboxDataExists := by unfold mailboxDataExists; infer_instance
instance : Stable nameAttributeExt := by unfold nameAttributeExt; infer_instance
instance : Stable nameAttribute := by unfold nameAttribute; infer_instance
instance : Stable mailboxList := by unfold mailboxList; infer_instance
instance : Stable mailboxDataList := by unfold mailboxDataList; infer_instance
instance : Stable mailboxDataLsub := by unfold mailboxDataLsub; infer_instance
instance : Stable statusAtt := by unfold statusAtt; infer_instance
instance : Stable statusAttList := by unfold statusAttList; infer_instance
instance : Stable mailboxDataStatus := by unfold mailboxDataStatus; infer_instance
instance : Stable mailboxDataRecent := by unfold mailboxDataRecent; infer_instance
instance : Stable mailboxData := by unfold mailboxData; infer_instance
instance : Stable msgAttEnvelope := by unfold msgAttEnvelope; infer_instance
instance : Stable msgAttInternalDate := by unfold msgAttInternalDate; infer_instance
instance : Stable msgAttFlags := by unfold msgAttFlags; infer_instance
instance : Stable msgAttRfc822 := by unfold msgAttRfc822; infer_instance
instance : Stable msgAttRfc822Header := by unfold msgAttRfc822Header; infer_instance
instance : Stable msgAttRfc822Size := by unfold msgAttRfc822Size; infer_instance
instance : Stable msgAttRfc822Text := by unfold msgAttRfc822Text; infer_instance
instance : Stable msgAttUid := by unfold msgAttUid; infer_instance
instance : Stable msgAtt := by unfold msgAtt; infer_instance
instance : Stable msgAttList := by unfold msgAttList; infer_instance
instance : Stable messageDataFetch := by unfold messageDataFetch; infer_instance
instance : Stable messageDataExpunge := by unfold messageDataExpunge; infer_instance
instance : Stable imapTag := by unfold imapTag; infer_instance

/-! ### `resp_text`: `&text[1..]` -/

theorem text_all {b v r} (h : text b = .ok v r) : ∀ c ∈ v, isTextChar c = true := by
  obtain ⟨s, hs, hu⟩ := mapRes_eq_ok h
  simp only [utf8] at hu
  split at hu <;> cases hu
  exact (takeWhile_eq_ok hs).2.1

theorem strFrom1_text (b : UInt8) (t : Bytes) (h : ∀ c ∈ t, isTextChar c = true) :
    strFrom1 (b :: t) = some t := by
  cases t with
  | nil => rfl
  | cons y ys => rw [strFrom1, textChar_notCont y (h y List.mem_cons_self)]; rfl

theorem respTextFinish_some (code : Option ResponseCode) (t : Bytes)
    (h : ∀ c ∈ t, isTextChar c = true) : respTextFinish code t ≠ none := by
  cases t with
  | nil => exact nofun
  | cons b t =>
    have := strFrom1_text b t fun c hc => h c (List.mem_cons_of_mem _ hc)
    cases code <;> simp [respTextFinish, this]

/-- the `&text[1..]` slice of the closure cannot panic, because what `text` returns is 7-bit.  `q` is
    `opt respTextCode` in `respText` and its generated counterpart in `Gen/StableGen.lean`. -/
instance instRespTextShape (q : Parser (Option ResponseCode)) [Stable q] :
    Stable (mapPanic (do let code ← q; let t ← text; pure (code, t))
      (fun ct => respTextFinish ct.1 ct.2)) :=
  mapPanic_stable _ _ fun b v r h => by
    obtain ⟨code, r1, -, h⟩ := bind_eq_ok h
    obtain ⟨t, r2, ht, h⟩ := bind_eq_ok h
    cases h
    exact respTextFinish_some code t (text_all ht)

instance : Stable respText := by unfold respText; infer_instance

instance : Stable trailingRespText := by unfold trailingRespText; infer_instance
instance : Stable continueReq := by unfold continueReq; infer_instance
instance : Stable responseTagged := by unfold responseTagged; infer_instance
instance : Stable respCond := by unfold respCond; infer_instance
instance : Stable responseDataAlt := by unfold responseDataAlt; infer_instance
instance : Stable responseData := by unfold responseData; infer_instance
instance : Stable parseResponse := by unfold parseResponse; infer_instance

end Stable
