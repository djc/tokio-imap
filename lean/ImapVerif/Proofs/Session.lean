/-
  Session level (C05): polling one command's response stream any number of times delivers exactly the
  responses of the connection's byte stream up to and including its own tagged completion - each
  once, in order - and leaves everything after it untouched.
  Composition of the per-poll facts of `ResponseStream::poll_next` (ClientInv) with the one-poll
  specification of the framed transport (Framed).
-/
import ImapVerif.Proofs.ClientInv
import ImapVerif.Proofs.Framed

open Bytes Client ClientInv Framed

namespace Session

/-- the transport calls of the polls (`Step.calls`) are not kept: at run level "flushed before any read" is stated
    through the stream's state (`ClientInv.Flushed`) -/
def spolls : Nat → RStream → Conn → List REv → List WEv → List PollR × RStream × Conn × List REv × List WEv
  | 0, s, c, rs, ws => ([], s, c, rs, ws)
  | k + 1, s, c, rs, ws =>
    let st := Stream.pollNext s c rs ws
    match spolls k st.s st.c st.rs st.ws with
    | (l, s', c', rs', ws') => (st.res :: l, s', c', rs', ws')

theorem spolls_succ_inv {k : Nat} {s : RStream} {c : Conn} {rs : List REv} {ws : List WEv}
    {res : List PollR} {t : RStream × Conn × List REv × List WEv} (h : spolls (k + 1) s c rs ws = (res, t)) :
    ∃ l, res = (Stream.pollNext s c rs ws).res :: l ∧
      spolls k (Stream.pollNext s c rs ws).s (Stream.pollNext s c rs ws).c (Stream.pollNext s c rs ws).rs
        (Stream.pollNext s c rs ws).ws = (l, t) := by
  obtain ⟨rfl, rfl⟩ := Prod.mk.inj h
  exact ⟨_, rfl, rfl⟩

theorem spolls_done (k : Nat) (s : RStream) (c : Conn) (rs : List REv) (ws : List WEv) (h : s.st = .done) :
    spolls k s c rs ws = (List.replicate k .done, s, c, rs, ws) := by
  induction k with
  | zero => rfl
  | succ k ih => simp only [spolls, pollNext_done s c rs ws h, ih, List.replicate_succ]

theorem framesOf_fwd (r : PollR) : framesOf [fwd r] = framesOf [r] := by
  rcases r with _ | ⟨_ | _⟩ | _ <;> rfl

/-- one poll of a stream does to the framing what one poll of the framed transport does (`poll_ideal`):
    it makes that poll, or none -/
theorem spoll_ideal (s : RStream) (c : Conn) (rs : List REv) (ws : List WEv) :
    Frames c.rd rs [(Stream.pollNext s c rs ws).res] (Stream.pollNext s c rs ws).c.rd (Stream.pollNext s c rs ws).rs := by
  by_cases hnd : s.st = .done
  · rw [pollNext_done s c rs ws hnd]
    exact .of_no_frame rfl _ _
  · obtain ⟨st0, w0, ws0, cl, new, -, -, -, ⟨-, -, e⟩ | ⟨-, -, r, hr', e⟩⟩ := pollNext_facts s c rs ws hnd
    · -- the transport's result is forwarded; the end of the transport stream becomes an error item, no frame
      rw [e, recvStep_eq]
      obtain ⟨h1, h2⟩ := poll_ideal (s := c.rd) (rs := rs) rfl
      exact ⟨by rw [framesOf_fwd]; exact h1,
        fun hr => h2 (by rwa [fwd_eq_self _ fun h => hr (List.mem_singleton.2 h.symm)] at hr)⟩
    · -- the poll stopped before any read (command not yet flushed)
      rw [e]
      rcases hr' with rfl | rfl <;> exact .of_no_frame rfl _ _

/-- **the read half under a stream's polls** behaves as under the transport's own polls (`polls_frames`):
    no response is lost, duplicated, merged, torn or reordered -/
theorem spolls_ideal : ∀ {k : Nat} {s : RStream} {c : Conn} {rs : List REv} {ws : List WEv}
    {res : List PollR} {s' : RStream} {c' : Conn} {rs' : List REv} {ws' : List WEv},
    spolls k s c rs ws = (res, s', c', rs', ws') → Frames c.rd rs res c'.rd rs'
  | 0, s, c, rs, ws, _, _, _, _, _, h => by
    cases h
    exact .of_no_frame rfl _ _
  | k + 1, s, c, rs, ws, res, s', c', rs', ws', h => by
    obtain ⟨l, rfl, ht⟩ := spolls_succ_inv h
    exact (spoll_ideal s c rs ws).cons (spolls_ideal ht)

/-- **the stream is delimited by its own completion**, whatever the transport does; with `spolls_ideal`:
    nothing after the completion has been consumed -/
theorem spolls_delimited : ∀ {k : Nat} {s : RStream} {c : Conn} {rs : List REv} {ws : List WEv}
    {res : List PollR} {s' : RStream} {c' : Conn} {rs' : List REv} {ws' : List WEv},
    s.st ≠ .done → spolls k s c rs ws = (res, s', c', rs', ws') →
    s'.tag = s.tag ∧
    (∀ f ∈ framesOf res, requestId f.value = some s.tag → s'.st = .done) ∧
    (s'.st = .done → ∃ pre f, framesOf res = pre ++ [f] ∧ requestId f.value = some s.tag ∧
      ∀ g ∈ pre, requestId g.value ≠ some s.tag) := by
  intro k
  induction k with
  | zero =>
    rintro s c rs ws _ _ _ _ _ hnd ⟨⟩
    exact ⟨rfl, by simp [framesOf], fun h => absurd h hnd⟩
  | succ k ih =>
    intro s c rs ws res s' c' rs' ws' hnd h
    obtain ⟨l, rfl, ht⟩ := spolls_succ_inv h
    have htag := (pollNext_keeps s c rs ws).2
    have hiff := pollNext_done_iff s c rs ws hnd
    rw [framesOf_cons]
    by_cases hd : (Stream.pollNext s c rs ws).s.st = .done
    · -- completed by this poll: the rest of the polls deliver nothing
      obtain ⟨f, hf, hm⟩ := hiff.1 hd
      rw [spolls_done k _ _ _ _ hd] at ht
      obtain ⟨⟩ := ht
      exact ⟨htag, fun _ _ _ => hd, fun _ => ⟨[], f, by simp [hf, framesOf, framesOf_replicate_done], hm, by simp⟩⟩
    · -- not completed: what this poll delivered does not carry the tag
      have hno : ∀ g ∈ framesOf [(Stream.pollNext s c rs ws).res], requestId g.value ≠ some s.tag :=
        fun g hg hm => hd (hiff.2 ⟨g, (mem_framesOf_one g _).1 hg, hm⟩)
      obtain ⟨i1, i2, i3⟩ := ih hd ht
      rw [htag] at i1 i2 i3
      refine ⟨i1, fun g hg hm => ?_, fun h => ?_⟩
      · exact (List.mem_append.1 hg).elim (fun hg => absurd hm (hno g hg)) (fun hg => i2 g hg hm)
      · obtain ⟨pre, f, hpre, hm, hall⟩ := i3 h
        exact ⟨_ ++ pre, f, by rw [hpre, List.append_assoc], hm,
          fun g hg => (List.mem_append.1 hg).elim (hno g) (hall g)⟩

theorem session_invariant {k : Nat} {s : RStream} {c : Conn} {rs : List REv} {ws : List WEv}
    {res : List PollR} {s' : RStream} {c' : Conn} {rs' : List REv} {ws' : List WEv}
    (hnd : s.st ≠ .done) (h : spolls k s c rs ws = (res, s', c', rs', ws')) :
    Frames c.rd rs res c'.rd rs' ∧
    s'.tag = s.tag ∧
    (∀ f ∈ framesOf res, requestId f.value = some s.tag → s'.st = .done) ∧
    (s'.st = .done → ∃ pre f, framesOf res = pre ++ [f] ∧ requestId f.value = some s.tag ∧
      ∀ g ∈ pre, requestId g.value ≠ some s.tag) :=
  ⟨spolls_ideal h, spolls_delimited hnd h⟩

end Session
