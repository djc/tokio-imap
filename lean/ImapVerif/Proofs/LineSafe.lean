/-
  `LineSafe p`: what `p` consumes is a `Seg` (CR/LF-free bytes and whole literals), and when `p`
  answers Incomplete the whole input is `SegOpen` - i.e. Incomplete only ever originates from running
  out of input inside a line or inside an announced literal.
  `LineOpen p` is the Incomplete half alone; `LineEnd p` is for the response level, which consumes the
  CRLF: an accept is a `Seg` and one CRLF.
  The fields are one predicate on the verdict, `Res.Line`; the one step every sequencing proof takes is
  `Res.Line.prepend`.  Instances by hand for `pure errP failP panicP >>= alt ite Option.elim tag tagNoCase
  takeWhile escaped` and the two loops; every other combinator is a term over these (`NomEq.lean`).  `take` has none:
  it occurs in `literal` only, which spans CRLF and is treated as a whole in `LineSafeGrammar.lean`.
-/
import Lean.Elab.Command
import ImapVerif.Proofs.Line
import ImapVerif.Proofs.Byte

open Bytes Parser Line

class LineSafe (p : Parser α) : Prop where
  ok : ∀ b v r, p b = .ok v r → ∃ c, b = c ++ r ∧ Seg c
  inc : ∀ b, p b = .inc → SegOpen b

class LineOpen (p : Parser α) : Prop where
  inc : ∀ b, p b = .inc → SegOpen b

/- The side conditions of the instances for `char c`, `tag t` / `tagNoCase t` and `takeWhile f`, as classes so
   that instance search settles them on the literal byte, keyword or byte class of a grammar function. -/
class NotCRLF (c : UInt8) : Prop where
  out : isCRLFByte c = false

class CRLFFree (t : Bytes) : Prop where
  out : Free t

class CRLFStop (f : UInt8 → Bool) : Prop where
  out : ∀ c, f c = true → isCRLFByte c = false

/-- what a verdict on `b` says about the lines of `b`: an accept consumed a `K`, Incomplete saw an
    open buffer -/
def Res.Line (K : Bytes → Prop) (b : Bytes) : Res α → Prop
  | .ok _ r => ∃ c, b = c ++ r ∧ K c
  | .inc => SegOpen b
  | _ => True

theorem Res.Line.prepend {s : Res α} (ha : Seg a) (hK : ∀ c, K c → K' (a ++ c)) (h : s.Line K r) :
    s.Line K' (a ++ r) := by
  cases s with
  | ok v r' => obtain ⟨c, rfl, hc⟩ := h; exact ⟨a ++ c, by simp, hK c hc⟩
  | inc => exact SegOpen.prepend ha h
  | _ => trivial

theorem Res.Line.seg {s : Res α} (ha : Seg a) (h : s.Line Seg r) : s.Line Seg (a ++ r) :=
  h.prepend ha fun _ => ha.append

/-- `p >>= f` on `r`, judged against a buffer `b` that need not be `r`: where `p` accepts, the verdict
    is that of `f` -/
theorem Res.Line.bind_of {p : Parser α} {f : α → Parser β} {r : Bytes} (hinc : p r = .inc → SegOpen b)
    (hf : ∀ v r', p r = .ok v r' → (f v r').Line K b) : ((p >>= f) r).Line K b := by
  simp only [bind_def, bindP]
  cases hs : p r with
  | ok v r' => exact hf v r' hs
  | inc => exact hinc hs
  | _ => trivial

theorem Res.Line.bind {p : Parser α} {f : α → Parser β} (hp : (p b).Line Seg b)
    (hf : ∀ v r, (f v r).Line K r) (hK : ∀ a c, Seg a → K c → K (a ++ c)) : ((p >>= f) b).Line K b :=
  .bind_of (fun h => by rwa [h] at hp) fun v r h => by
    rw [h] at hp
    obtain ⟨c, rfl, hc⟩ := hp
    exact (hf v r).prepend hc fun _ => hK c _ hc

theorem Res.Line.alt {p q : Parser α} (hp : (p b).Line K b) (hq : (q b).Line K b) :
    (Parser.alt p q b).Line K b := by
  simp only [Parser.alt]
  cases hs : p b with rw [hs] at hp
  | err => exact hq
  | _ => exact hp

def Line.SegLine (c : Bytes) : Prop := ∃ s, c = s ++ [13, 10] ∧ Seg s

class LineEnd (p : Parser α) : Prop where
  line : ∀ b, (p b).Line SegLine b

namespace LineSafe

/- `NotCRLF n` for every byte but CR and LF.  One instance per numeral: numerals are literal keys of the
   instance index, so no single instance covers them. -/
open Lean Elab Command in
run_cmd
  for i in [0:256] do
    if i != 10 && i != 13 then
      elabCommand (← `(instance : NotCRLF $(Syntax.mkNumLit (toString i)) := ⟨by decide⟩))

instance : CRLFFree [] := ⟨Free.nil⟩
instance (c : UInt8) (t : Bytes) [hc : NotCRLF c] [ht : CRLFFree t] : CRLFFree (c :: t) :=
  ⟨Free.cons hc.out ht.out⟩

instance (priority := low) instOpenOfSafe (p : Parser α) [h : LineSafe p] : LineOpen p := ⟨h.inc⟩

theorem of {p : Parser α} (h : ∀ b, (p b).Line Seg b) : LineSafe p where
  ok b v r hb := by have := h b; rwa [hb] at this
  inc b hb := by have := h b; rwa [hb] at this

theorem line {p : Parser α} (hp : LineSafe p) (b : Bytes) : (p b).Line Seg b := by
  cases h : p b with
  | ok v r => exact hp.ok b v r h
  | inc => exact hp.inc b h
  | _ => trivial

instance instPure (a : α) : LineSafe (pure a : Parser α) := .of fun _ => ⟨[], rfl, Seg.nil⟩
instance instErrP : LineSafe (errP : Parser α) := .of fun _ => trivial
instance instFailP : LineSafe (failP : Parser α) := .of fun _ => trivial
instance instPanicP : LineSafe (panicP : Parser α) := .of fun _ => trivial

instance instBind (p : Parser α) (f : α → Parser β) [hp : LineSafe p] [hf : ∀ a, LineSafe (f a)] :
    LineSafe (p >>= f) := .of fun b => (hp.line b).bind (fun v r => (hf v).line r) fun _ _ => Seg.append

/-- `p; q`, for the reason given at `Stable.instSeq` -/
instance (priority := high) instSeq (p : Parser Unit) (q : Parser β) [LineSafe p] [LineSafe q] :
    LineSafe (p >>= fun _ => q) := inferInstance

instance instAlt (p q : Parser α) [hp : LineSafe p] [hq : LineSafe q] : LineSafe (alt p q) :=
  .of fun b => (hp.line b).alt (hq.line b)

instance instIte (c : Prop) [Decidable c] (p q : Parser α) [hp : LineSafe p] [hq : LineSafe q] :
    LineSafe (if c then p else q) := by
  split <;> assumption

instance instElim (o : Option α) (e : Parser β) (f : α → Parser β) [he : LineSafe e]
    [hf : ∀ a, LineSafe (f a)] : LineSafe (o.elim e f) :=
  match o with
  | none => he
  | some a => hf a

theorem tagGo_line (eq : UInt8 → UInt8 → Bool)
    (heq : ∀ a b, eq a b = true → isCRLFByte a = false → isCRLFByte b = false) :
    ∀ t b, Free t → (tagGo eq t b).Line Seg b
  | [], _, _ => ⟨[], rfl, Seg.nil⟩
  | _ :: _, [], _ => SegOpen.of_free [] Free.nil
  | y :: ys, c :: cs, ht => by
    simp only [tagGo]
    split
    · next hyc =>
      have hc : Seg [c] := Seg.byte c [] (heq y c hyc (ht y (by simp))) Seg.nil
      exact (tagGo_line eq heq ys cs fun a ha => ht a (by simp [ha])).seg hc
    · trivial

theorem crlf_lower : ∀ c : UInt8, isCRLFByte (lower c) = isCRLFByte c := by decide +kernel

instance instTag (t : Bytes) [ht : CRLFFree t] : LineSafe (tag t) :=
  .of fun b => tagGo_line (· == ·) (fun a c hab ha => by rw [← eq_of_beq hab]; exact ha) t b ht.out

instance instTagNoCase (t : Bytes) [ht : CRLFFree t] : LineSafe (tagNoCase t) :=
  .of fun b => tagGo_line _ (fun a c hac ha => by rw [← crlf_lower, ← eq_of_beq hac, crlf_lower, ha]) t b ht.out

instance instTakeWhile (f : UInt8 → Bool) [hf : CRLFStop f] : LineSafe (takeWhile f) := .of fun b => by
  cases h : takeWhile f b with
  | ok s t => exact ⟨s, (takeWhile_eq_ok h).1, Seg.of_free s fun c hc => hf.out c ((takeWhile_eq_ok h).2.1 c hc)⟩
  | inc => exact SegOpen.of_free b fun c hc => hf.out c (takeWhile_eq_inc h c hc)
  | _ => trivial

instance : CRLFStop isSpace := ⟨not_crlf_of_two _ (by decide) (by decide)⟩
instance : CRLFStop isDigit := ⟨isDigit_not_crlf⟩

/-- the response terminator: Incomplete on `[]` and on a lone CR -/
theorem crlf_open {b : Bytes} (h : tag [13, 10] b = .inc) : SegOpen b := by
  obtain ⟨y, hy, e⟩ := tag_eq_inc h
  match b, e with
  | [], _ => exact SegOpen.of_free [] Free.nil
  | [_], e => cases e; exact ⟨[], [13], rfl, Seg.nil, OpenTail.cr [] Free.nil⟩
  | [_, _], e => cases e; exact absurd rfl hy

theorem many0Go_line (p : Parser α) [hp : LineSafe p] : ∀ n i acc, (many0Go p n i acc).Line Seg i
  | 0, _, _ => trivial
  | n + 1, i, acc => by
    have h := hp.line i
    rw [many0Go]
    cases hs : p i with rw [hs] at h
    | err => exact ⟨[], rfl, Seg.nil⟩
    | ok v r =>
      obtain ⟨c, rfl, hc⟩ := h
      dsimp only
      split
      · exact (many0Go_line p n r (v :: acc)).seg hc
      · trivial
    | inc => exact h
    | _ => trivial

instance instMany0From (p : Parser α) [LineSafe p] (acc : List α) : LineSafe (many0From p acc) :=
  .of fun b => many0Go_line p _ b acc

theorem sepGo_line (sep : Parser Unit) (p : Parser α) [hs : LineSafe sep] [hp : LineSafe p] :
    ∀ n i acc, (sepGo sep p n i acc).Line Seg i
  | 0, _, _ => trivial
  | n + 1, i, acc => by
    have h := hs.line i
    rw [sepGo]
    cases hsi : sep i with rw [hsi] at h
    | err => exact ⟨[], rfl, Seg.nil⟩
    | ok u i1 =>
      obtain ⟨c, rfl, hc⟩ := h
      dsimp only
      split
      · have h := hp.line i1
        cases hpi : p i1 with rw [hpi] at h
        | err => exact ⟨[], rfl, Seg.nil⟩
        | ok v i2 =>
          obtain ⟨c2, rfl, hc2⟩ := h
          exact ((sepGo_line sep p n i2 (v :: acc)).seg hc2).seg hc
        | inc => exact SegOpen.prepend hc h
        | _ => trivial
      · trivial
    | inc => exact h
    | _ => trivial

instance instSepFrom (sep : Parser Unit) (p : Parser α) [LineSafe sep] [LineSafe p] (acc : List α) :
    LineSafe (sepFrom sep p acc) :=
  .of fun b => sepGo_line sep p _ b acc

theorem escapedGo_line (normal : UInt8 → Bool) [hn : CRLFStop normal] :
    ∀ i acc, (escapedGo normal acc i).Line Seg i
  | [], _ => SegOpen.of_free [] Free.nil
  | c :: r, acc => by
    rw [escapedGo_cons]
    split
    · next hc => exact (escapedGo_line normal r _).seg (Seg.byte c [] (hn.out c hc) Seg.nil)
    split
    · next h92 =>
      cases eq_of_beq h92
      cases r with
      | nil => exact SegOpen.of_free [92] (Free.cons rfl Free.nil)
      | cons d r' =>
        dsimp only
        split
        · next hd =>
          have hd := not_crlf_of_two (fun d => d == 92 || d == 34) rfl rfl d hd
          exact (escapedGo_line normal r' _).seg (a := [92, d]) (Seg.byte 92 _ rfl (Seg.byte d [] hd Seg.nil))
        · trivial
    · exact ⟨[], rfl, Seg.nil⟩

instance instEscaped (normal : UInt8 → Bool) [CRLFStop normal] : LineSafe (escaped normal) :=
  .of fun b => escapedGo_line normal b []

instance instMap (p : Parser α) (f : α → β) [LineSafe p] : LineSafe (map p f) := map_eq p f ▸ inferInstance
instance instMapRes (p : Parser α) (f : α → Option β) [LineSafe p] : LineSafe (mapRes p f) :=
  mapRes_eq p f ▸ inferInstance
instance instMapPanic (p : Parser α) (f : α → Option β) [LineSafe p] : LineSafe (mapPanic p f) :=
  mapPanic_eq p f ▸ inferInstance
instance instOpt (p : Parser α) [LineSafe p] : LineSafe (opt p) := opt_eq p ▸ inferInstance
instance instOptOpt (p : Parser (Option α)) [LineSafe p] : LineSafe (optOpt p) := optOpt_eq p ▸ inferInstance
instance instTakeWhile1 (f : UInt8 → Bool) [CRLFStop f] : LineSafe (takeWhile1 f) :=
  takeWhile1_eq f ▸ inferInstance
instance instChar (c : UInt8) [NotCRLF c] : LineSafe (char c) := char_eq c ▸ inferInstance
instance instSpace0 : LineSafe space0 := space0_eq ▸ inferInstance
instance instSpace1 : LineSafe space1 := space1_eq ▸ inferInstance
instance instMany0 (p : Parser α) [LineSafe p] : LineSafe (many0 p) := many0_eq p ▸ inferInstance
instance instMany1 (p : Parser α) [LineSafe p] : LineSafe (many1 p) := many1_eq p ▸ inferInstance
instance instSepList1 (sep : Parser Unit) (p : Parser α) [LineSafe sep] [LineSafe p] :
    LineSafe (sepList1 sep p) := sepList1_eq sep p ▸ inferInstance
instance instSepList0 (sep : Parser Unit) (p : Parser α) [LineSafe sep] [LineSafe p] :
    LineSafe (sepList0 sep p) := sepList0_eq sep p ▸ inferInstance

end LineSafe

/-! ### the response level: everything up to the terminator is `LineSafe`, then `tag CRLF` -/

namespace LineEnd

instance (p : Parser α) [h : LineEnd p] : LineOpen p := ⟨fun b hb => by have := h.line b; rwa [hb] at this⟩

instance instCRLFThenPure (v : β) : LineEnd (tag [13, 10] >>= fun (_ : Unit) => (pure v : Parser β)) where
  line _ := .bind_of LineSafe.crlf_open fun _ _ h => ⟨[13, 10], tag_eq_ok h, [], rfl, Seg.nil⟩

instance instBind (p : Parser α) (f : α → Parser β) [hp : LineSafe p] [hf : ∀ a, LineEnd (f a)] :
    LineEnd (p >>= f) where
  line b := (hp.line b).bind (fun v r => (hf v).line r)
    fun a _ ha ⟨s, e, hs⟩ => ⟨a ++ s, by rw [e, List.append_assoc], ha.append hs⟩

instance instAlt (p q : Parser α) [hp : LineEnd p] [hq : LineEnd q] : LineEnd (alt p q) where
  line b := (hp.line b).alt (hq.line b)

theorem ok {p : Parser α} [h : LineEnd p] (b v r) (hb : p b = .ok v r) : ∃ c, b = c ++ [13, 10] ++ r ∧ Seg c := by
  have := h.line b
  rw [hb] at this
  obtain ⟨_, rfl, c, rfl, hc⟩ := this
  exact ⟨c, rfl, hc⟩

theorem ends_at_first_crlf {p : Parser α} [LineEnd p] (b v r) (hb : p b = .ok v r) :
    ∃ c, b = c ++ [13, 10] ++ r ∧ Seg c ∧ (Free c → findCRLF b = some c.length) := by
  obtain ⟨c, rfl, hs⟩ := ok b v r hb
  exact ⟨c, rfl, hs, fun hf => by simpa using findCRLF_prefix c r hf⟩

end LineEnd

theorem LineOpen.frame_not_inc {p : Parser α} [hp : LineOpen p] {b : Bytes} {n : Nat}
    (h : frameEnd b = some n) : p b ≠ .inc := by
  intro hinc
  rw [frameEnd_none_of_segOpen b (hp.inc b hinc)] at h
  cases h
