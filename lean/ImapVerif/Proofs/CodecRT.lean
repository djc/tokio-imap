/-
  The codec on a stream of encoded responses: the one-shot framing of `e1 ++ e2 ++ ... ++ tail` begins
  with exactly the frames (e1, r1), (e2, r2), ...  Together with Framed.polls_ideal this says that a
  connection carrying RFC-conformant responses delivers exactly those responses under any chunking -
  whatever their literals contain (`C08.codec_frames_are_the_responses`).
-/
import ImapVerif.Proofs.RT.Resp
import ImapVerif.Proofs.Framed

open Bytes Parser Grammar Client Framed RT

namespace CodecRT

theorem decodeC_enc {r : Response} {e : Bytes} (h : EncResponse r e) (rest : Bytes) :
    decodeC (e ++ rest) = .frame ⟨e, r⟩ rest :=
  decodeC_of_ok (parseResponse_enc r e h rest)

def framesOfEncs (items : List (Response × Bytes)) : List Frame := items.map fun x => ⟨x.2, x.1⟩

theorem ideal_encodings (items : List (Response × Bytes)) (hall : ∀ x ∈ items, EncResponse x.1 x.2) (tail : Bytes) :
    ideal ((items.map (·.2)).flatten ++ tail) = framesOfEncs items ++ ideal tail := by
  induction items with
  | nil => rfl
  | cons x xs ih =>
    obtain ⟨hx, hxs⟩ := List.forall_mem_cons.1 hall
    rw [List.map_cons, List.flatten_cons, List.append_assoc, ideal_cons (decodeC_enc hx _), ih hxs]
    rfl

end CodecRT
