/-
  Invariant of the ownership model (Frames.lean) and the theorem that no admissible operation
  touches the cells of a live frame.  `step` is inverted once, into the relation `Step` with one rule
  per admissible operation; everything about a step is proved by cases on that relation.
-/
import ImapVerif.Frames

namespace Own

inductive Step (s : St) : Op → St → Eff → Prop
  | recvInPlace (w : Win) (size n cap : Nat) : s.win = some w → look s.sizes w.a = some size →
      (w.off + cap = size ∨ shared s w.a = false) → w.off + w.len + n ≤ w.off + cap →
      Step s (.recvInPlace n cap)
        { s with sizes := setSize s.sizes w.a (w.off + cap), win := some { w with len := w.len + n } }
        { writes := [(w.a, w.off + w.len, w.off + w.len + n)] }
  | recvShift (w : Win) (size n newOff cap : Nat) : s.win = some w → look s.sizes w.a = some size →
      shared s w.a = false → w.len + n ≤ cap →
      Step s (.recvShift n newOff cap)
        { s with sizes := setSize s.sizes w.a (newOff + cap), win := some { w with off := newOff, len := w.len + n } }
        { writes := [(w.a, newOff, newOff + w.len + n)] }
  | recvNew (w : Win) (n cap : Nat) (s1 : St) : s.win = some w → w.len + n ≤ cap →
      s1 = { s with next := s.next + 1, sizes := (s.next, cap) :: s.sizes, win := some ⟨s.next, 0, w.len + n⟩ } →
      Step s (.recvNew n cap) (release s1 w.a).1 { writes := [(s.next, 0, w.len + n)], freed := (release s1 w.a).2 }
  | deliver (w : Win) (n : Nat) : s.win = some w → 0 < n → n ≤ w.len →
      Step s (.deliver n)
        { s with frames := ⟨s.nextH, w.a, w.off, n⟩ :: s.frames, nextH := s.nextH + 1,
                 win := some { w with off := w.off + n, len := w.len - n } } {}
  | dropFrame (h : Nat) (f : Frame) (s1 : St) : s.frames.find? (·.h == h) = some f →
      s1 = { s with frames := s.frames.filter (·.h != h) } →
      Step s (.dropFrame h) (release s1 f.a).1 { freed := (release s1 f.a).2 }
  | dropBuf (w : Win) (s1 : St) : s.win = some w → s1 = { s with win := none } →
      Step s .dropBuf (release s1 w.a).1 { freed := (release s1 w.a).2 }

theorem step_sound {s : St} {op : Op} {s' : St} {e : Eff} (hs : step s op = some (s', e)) : Step s op s' e := by
  revert hs
  -- the six cases in which `step` does not refuse, in the order of its definition
  fun_cases step s op <;> intro hs <;> cases hs
  case case3 hw _ hl _ hc => exact .recvInPlace _ _ _ _ hw hl hc.1 hc.2
  case case7 hw _ hl hc => exact .recvShift _ _ _ _ _ hw hl hc.1 hc.2
  case case10 hw hc _ _ hr =>
    have := Step.recvNew _ _ _ _ hw hc rfl
    rwa [hr] at this
  case case13 hw hc => exact .deliver _ _ hw hc.1 hc.2
  case case16 hf _ _ hr =>
    have := Step.dropFrame _ _ _ hf rfl
    rwa [hr] at this
  case case18 hw _ _ hr =>
    have := Step.dropBuf _ _ hw rfl
    rwa [hr] at this

theorem look_filter_ne (l : List (Nat × Nat)) (a x : Nat) (h : x ≠ a) :
    look (l.filter (·.1 != a)) x = look l x := by
  induction l with
  | nil => rfl
  | cons p rest ih =>
    by_cases hb : p.1 = a
    · simp [look, hb, Ne.symm h, ih]
    · simp only [List.filter_cons, bne_iff_ne, ne_eq, hb, not_false_eq_true, if_true, look, ih]

theorem look_setSize (l : List (Nat × Nat)) (a n x : Nat) :
    look (setSize l a n) x = if x = a then some n else look l x := by
  by_cases h : x = a
  · simp [setSize, look, h]
  · simp [setSize, look, h, Ne.symm h, look_filter_ne l a x h]

theorem look_some_mem {l : List (Nat × Nat)} {x n : Nat} (h : look l x = some n) : (x, n) ∈ l := by
  induction l with
  | nil => cases h
  | cons p rest ih =>
    simp only [look] at h
    split at h
    next hb =>
      cases h
      subst hb
      exact List.mem_cons_self ..
    · exact List.mem_cons_of_mem _ (ih h)

theorem look_fresh (l : List (Nat × Nat)) (x : Nat) (h : ∀ p ∈ l, p.1 < x) : look l x = none := by
  cases hl : look l x with
  | none => rfl
  | some n => exact absurd (h _ (look_some_mem hl)) (Nat.lt_irrefl _)

structure Inv (s : St) : Prop where
  frameAlloc : ∀ f ∈ s.frames, ∃ size, look s.sizes f.a = some size ∧ f.off + f.len ≤ size
  winAlloc : ∀ w, s.win = some w → ∃ size, look s.sizes w.a = some size ∧ w.off + w.len ≤ size
  before : ∀ w, s.win = some w → ∀ f ∈ s.frames, f.a = w.a → f.off + f.len ≤ w.off
  fresh : ∀ p ∈ s.sizes, p.1 < s.next
  handles : ∀ f ∈ s.frames, f.h < s.nextH

theorem shared_false_iff (s : St) (a : Nat) : shared s a = false ↔ ∀ f ∈ s.frames, f.a ≠ a := by
  simp [shared]

theorem Inv.frame_lt {s : St} (h : Inv s) (f : Frame) (hf : f ∈ s.frames) : f.a < s.next := by
  obtain ⟨sz, hl, _⟩ := h.frameAlloc f hf
  exact h.fresh _ (look_some_mem hl)

theorem release_spec (s : St) (a : Nat) :
    (release s a = (s, [])) ∨
    ((∀ f ∈ s.frames, f.a ≠ a) ∧ (∀ w, s.win = some w → w.a ≠ a) ∧
      release s a = ({ s with sizes := s.sizes.filter (·.1 != a) }, [a])) := by
  unfold release
  split
  · exact .inl rfl
  next hc =>
    simp only [Bool.or_eq_true, not_or, Bool.not_eq_true] at hc
    refine .inr ⟨(shared_false_iff s a).1 hc.1, fun w hw e => ?_, rfl⟩
    simp [winIn, hw, e] at hc

theorem release_frames (s : St) (a : Nat) : (release s a).1.frames = s.frames := by
  rcases release_spec s a with h | ⟨-, -, h⟩ <;> rw [h]

theorem release_win (s : St) (a : Nat) : (release s a).1.win = s.win := by
  rcases release_spec s a with h | ⟨-, -, h⟩ <;> rw [h]

theorem release_nextH (s : St) (a : Nat) : (release s a).1.nextH = s.nextH := by
  rcases release_spec s a with h | ⟨-, -, h⟩ <;> rw [h]

theorem release_freed {s : St} {a x : Nat} (hx : x ∈ (release s a).2) : ∀ f ∈ s.frames, f.a ≠ x := by
  rcases release_spec s a with h | ⟨hf, -, h⟩ <;> rw [h] at hx
  · cases hx
  · obtain rfl : x = a := by simpa using hx
    exact hf

theorem inv_release {s : St} {a : Nat} (h : Inv s) : Inv (release s a).1 := by
  rcases release_spec s a with e | ⟨hf, hw, e⟩ <;> rw [e]
  · exact h
  · refine ⟨fun f hf' => ?_, fun w hw' => ?_, h.before, fun p hp => h.fresh p (List.mem_filter.1 hp).1, h.handles⟩
    · simpa [look_filter_ne _ _ _ (hf f hf')] using h.frameAlloc f hf'
    · simpa [look_filter_ne _ _ _ (hw w hw')] using h.winAlloc w hw'

theorem mem_setSize {l : List (Nat × Nat)} {a n : Nat} {p : Nat × Nat} (hp : p ∈ setSize l a n) :
    p = (a, n) ∨ p ∈ l := by
  simp only [setSize, List.mem_cons] at hp
  exact hp.imp id fun h => (List.mem_filter.1 h).1

/-- an allocation resized and the window placed inside it: what both in-place receives do -/
theorem Inv.resize {s : St} (h : Inv s) {w : Win} {size size' : Nat} (hsize : look s.sizes w.a = some size)
    (hfit : w.off + w.len ≤ size') (hbefore : ∀ f ∈ s.frames, f.a = w.a → f.off + f.len ≤ w.off) :
    Inv { s with sizes := setSize s.sizes w.a size', win := some w } := by
  refine ⟨fun f hf => ?_, ?_, ?_, fun p hp => ?_, h.handles⟩
  · -- a frame in that allocation ends before the window, which fits
    simp only [look_setSize]
    split
    · exact ⟨_, rfl, Nat.le_trans (hbefore f hf ‹_›) (Nat.le_trans (Nat.le_add_right ..) hfit)⟩
    · exact h.frameAlloc f hf
  · rintro _ ⟨⟩
    exact ⟨size', by rw [look_setSize, if_pos rfl], hfit⟩
  · rintro _ ⟨⟩
    exact hbefore
  · rcases mem_setSize hp with rfl | hp
    · exact h.fresh (w.a, size) (look_some_mem hsize)
    · exact h.fresh p hp

theorem inv_step {s : St} {op : Op} {s' : St} {e : Eff} (h : Inv s) (hs : step s op = some (s', e)) : Inv s' := by
  cases step_sound hs with
  | recvInPlace w size n cap hw hsize hc hle =>
    exact h.resize (w := { w with len := w.len + n }) hsize (by rwa [← Nat.add_assoc]) (h.before w hw)
  | recvShift w size n newOff cap hw hsize hsh hle =>
    exact h.resize (w := { w with off := newOff, len := w.len + n }) hsize (Nat.add_le_add_left hle _)
      fun f hf hfa => absurd hfa ((shared_false_iff s w.a).1 hsh f hf)
  | recvNew w n cap s1 hw hle hs1 =>
    subst hs1
    refine inv_release ⟨fun f hf => ?_, ?_, ?_, ?_, h.handles⟩
    · rw [look, if_neg (Nat.ne_of_gt (h.frame_lt f hf))]
      exact h.frameAlloc f hf
    · rintro _ ⟨⟩
      exact ⟨cap, by simp [look], by simpa using hle⟩
    · rintro _ ⟨⟩ f hf hfa
      exact absurd hfa (Nat.ne_of_lt (h.frame_lt f hf))
    · exact List.forall_mem_cons.2 ⟨Nat.lt_succ_self _, fun p hp => Nat.lt_succ_of_lt (h.fresh p hp)⟩
  | deliver w n hw h0 hle =>
    obtain ⟨sz, hl, hb⟩ := h.winAlloc w hw
    refine ⟨List.forall_mem_cons.2 ⟨⟨sz, hl, ?_⟩, h.frameAlloc⟩, ?_, ?_, h.fresh,
      List.forall_mem_cons.2 ⟨Nat.lt_succ_self _, fun f hf => Nat.lt_succ_of_lt (h.handles f hf)⟩⟩
    · exact Nat.le_trans (Nat.add_le_add_left hle _) hb
    · rintro _ ⟨⟩
      refine ⟨sz, hl, ?_⟩
      show w.off + n + (w.len - n) ≤ sz
      omega
    · rintro _ ⟨⟩
      exact List.forall_mem_cons.2 ⟨fun _ => Nat.le_refl _, fun f hf hfa =>
        Nat.le_trans (h.before w hw f hf hfa) (Nat.le_add_right ..)⟩
  | dropFrame hd f0 s1 hf0 hs1 =>
    subst hs1
    exact inv_release ⟨fun f hf => h.frameAlloc f (List.mem_filter.1 hf).1, h.winAlloc,
      fun w hw f hf => h.before w hw f (List.mem_filter.1 hf).1, h.fresh,
      fun f hf => h.handles f (List.mem_filter.1 hf).1⟩
  | dropBuf w s1 hw hs1 =>
    subst hs1
    exact inv_release ⟨h.frameAlloc, by rintro _ ⟨⟩, by rintro _ ⟨⟩, h.fresh, h.handles⟩

/-- writes go to the window's tail, to an unshared allocation or to a fresh one: every live frame lies
    in another allocation or ends before the write begins -/
theorem step_writes {s : St} {op : Op} {s' : St} {e : Eff} (h : Inv s) (hs : step s op = some (s', e)) :
    ∀ f ∈ s.frames, ∀ wr ∈ e.writes, f.a ≠ wr.1 ∨ f.off + f.len ≤ wr.2.1 := by
  intro f hf wr hwr
  cases step_sound hs with
  | recvInPlace w size n cap hw =>
    obtain rfl := List.mem_singleton.1 hwr
    by_cases hfa : f.a = w.a
    · exact .inr (Nat.le_trans (h.before w hw f hf hfa) (Nat.le_add_right ..))
    · exact .inl hfa
  | recvShift w size n newOff cap _ _ hsh =>
    obtain rfl := List.mem_singleton.1 hwr
    exact .inl ((shared_false_iff s w.a).1 hsh f hf)
  | recvNew w n cap =>
    obtain rfl := List.mem_singleton.1 hwr
    exact .inl (Nat.ne_of_lt (h.frame_lt f hf))
  | deliver | dropFrame | dropBuf => cases hwr

theorem step_freed {s : St} {op : Op} {s' : St} {e : Eff} (hs : step s op = some (s', e)) :
    ∀ a ∈ e.freed, ∀ f ∈ s'.frames, f.a ≠ a := by
  intro a ha
  cases step_sound hs with
  | recvInPlace | recvShift | deliver => cases ha
  | recvNew | dropFrame | dropBuf =>
    rw [release_frames]
    exact release_freed ha

/-- handles are not reused: a frame whose handle has been issued is live after a step only if it was
    live before -/
theorem step_old_frame {s : St} {op : Op} {s' : St} {e : Eff} (hs : step s op = some (s', e)) {f : Frame}
    (hh : f.h < s.nextH) : f.h < s'.nextH ∧ (f ∈ s'.frames → f ∈ s.frames) := by
  cases step_sound hs with
  | recvInPlace | recvShift => exact ⟨hh, id⟩
  | recvNew _ _ _ _ _ _ hs1 | dropBuf _ _ _ hs1 =>
    subst hs1
    rw [release_frames, release_nextH]
    exact ⟨hh, id⟩
  | dropFrame _ _ _ _ hs1 =>
    subst hs1
    rw [release_frames, release_nextH]
    exact ⟨hh, fun hf => (List.mem_filter.1 hf).1⟩
  | deliver =>
    refine ⟨Nat.lt_succ_of_lt hh, fun hf => (List.mem_cons.1 hf).resolve_left ?_⟩
    rintro rfl
    exact Nat.lt_irrefl _ hh

theorem applyWrite_other (m : Mem) (v : Nat) (w : Nat × Nat × Nat) (a i : Nat)
    (h : a ≠ w.1 ∨ i < w.2.1 ∨ w.2.2 ≤ i) : applyWrite m v w a i = m a i := by
  unfold applyWrite
  split
  · omega
  · rfl

theorem applyFree_other (m : Mem) (v x a i : Nat) (h : a ≠ x) : applyFree m v x a i = m a i :=
  if_neg h

theorem foldl_other {α : Type} (f : Mem → α → Mem) (l : List α) (m : Mem) (a i : Nat)
    (h : ∀ x ∈ l, ∀ m, f m x a i = m a i) : l.foldl f m a i = m a i := by
  induction l generalizing m with
  | nil => rfl
  | cons x xs ih =>
    rw [List.foldl_cons, ih _ fun y hy => h y (List.mem_cons_of_mem _ hy)]
    exact h x List.mem_cons_self m

theorem applyEff_other (m : Mem) (v : Nat) (e : Eff) (a i : Nat)
    (hw : ∀ w ∈ e.writes, a ≠ w.1 ∨ i < w.2.1 ∨ w.2.2 ≤ i) (hf : a ∉ e.freed) :
    applyEff m v e a i = m a i := by
  unfold applyEff
  rw [foldl_other _ e.freed _ a i fun x hx m => applyFree_other m v x a i fun h => hf (h ▸ hx),
    foldl_other _ e.writes m a i fun w hw' m => applyWrite_other m v w a i (hw w hw')]

theorem step_intact {s : St} {op : Op} {s' : St} {e : Eff} (h : Inv s) (hs : step s op = some (s', e))
    {m : Mem} {v : Nat} {f : Frame} (hf : f ∈ s.frames) (hf' : f ∈ s'.frames) :
    ∀ i, i < f.len → applyEff m v e f.a (f.off + i) = m f.a (f.off + i) := fun i hi =>
  applyEff_other m v e _ _
    (fun wr hwr => (step_writes h hs f hf wr hwr).imp id fun h => .inl (by omega))
    (fun hfr => step_freed hs _ hfr f hf' rfl)

theorem run_induction {P : St → Mem → Prop} {ops : List (Op × Nat)} {s : St} {m : Mem} {s' : St} {m' : Mem}
    (hstep : ∀ {s m op s1 e}, P s m → step s op = some (s1, e) → ∀ v, P s1 (applyEff m v e))
    (h0 : P s m) (hr : run s m ops = some (s', m')) : P s' m' := by
  induction ops generalizing s m with
  | nil =>
    cases hr
    exact h0
  | cons x rest ih =>
    simp only [run] at hr
    split at hr
    · cases hr
    · exact ih (hstep h0 ‹_› _) hr

theorem inv_run {ops : List (Op × Nat)} {s : St} {m : Mem} {s' : St} {m' : Mem} (h : Inv s)
    (hr : run s m ops = some (s', m')) : Inv s' :=
  run_induction (P := fun s _ => Inv s) (fun h hs _ => inv_step h hs) h hr

theorem run_intact {ops : List (Op × Nat)} {s : St} {m : Mem} {s' : St} {m' : Mem} (h : Inv s)
    (hr : run s m ops = some (s', m')) {f : Frame} (hf : f ∈ s.frames) (hf' : f ∈ s'.frames) :
    ∀ i, i < f.len → m' f.a (f.off + i) = m f.a (f.off + i) :=
  -- while the frame is live it is intact; its handle is not fresh, so once dropped it stays dropped
  (run_induction
    (P := fun s1 m1 => Inv s1 ∧ f.h < s1.nextH ∧ (f ∈ s1.frames → ∀ i, i < f.len → m1 f.a (f.off + i) = m f.a (f.off + i)))
    (fun ⟨hi, hh, hk⟩ hs _ =>
      have ⟨hh1, hold⟩ := step_old_frame hs hh
      ⟨inv_step hi hs, hh1, fun hf1 i hl => (step_intact hi hs (hold hf1) hf1 i hl).trans (hk (hold hf1) i hl)⟩)
    ⟨h, h.handles f hf, fun _ _ _ => rfl⟩ hr).2.2 hf'

theorem inv_init : Inv ({} : St) where
  frameAlloc := nofun
  winAlloc := by
    rintro _ ⟨⟩
    exact ⟨0, rfl, Nat.le_refl _⟩
  before := nofun
  fresh := by decide
  handles := nofun

end Own
