/-
  One poll of `ResponseStream::poll_next` (Client.lean), each function specified once.  `poll_ready` and
  `poll_flush` only move bytes from the write buffer to the wire and make no read (`Flushes`); `start_send`
  appends the command line to the buffer; the `Receiving` arm is one poll of the framed transport and touches nothing but the
  read half (`recvStep_eq`); a poll of a live stream is the write half followed - if it completes - by the
  `Receiving` arm (`pollNext_facts`).  What a poll keeps, sends and reads, and when the stream completes,
  is read off that view.
-/
import ImapVerif.Client

open Bytes Client

namespace ClientInv

theorem pollFlushGo_spec (ws : List WEv) (w : Wr) (calls : List Char) :
    ∀ u w' ws' cl, pollFlushGo ws w calls = (u, w', ws', cl) →
      w'.wire ++ w'.wbuf = w.wire ++ w.wbuf ∧ (u = .ready → w'.wbuf = []) ∧
      (u = .pending → ws' = [] ∨ ∃ pre, ws = pre ++ WEv.pending :: ws') ∧ ('r' ∉ calls → 'r' ∉ cl) := by
  fun_induction pollFlushGo ws w calls
  case case11 w calls _ _ _ n ws' _ k ih =>
    -- `acc n`: the first `k` bytes of the buffer go to the end of the wire, and the loop goes on
    intro u w' ws'' cl h
    obtain ⟨h1, h2, h3, h4⟩ := ih u w' ws'' cl h
    refine ⟨by simpa [List.append_assoc] using h1, h2, fun hp => ?_, fun hc => h4 (by simpa using hc)⟩
    exact (h3 hp).imp id fun ⟨pre, e⟩ => ⟨.acc n :: pre, by rw [List.cons_append, ← e]⟩
  all_goals
    rintro _ _ _ _ ⟨⟩
    simp_all

/-- what `poll_flush` / `poll_ready` may do to the write half `w` under the script `ws` -/
structure Flushes (w : Wr) (ws : List WEv) (r : PollU × Wr × List WEv × List Char) : Prop where
  bytes : r.2.1.wire ++ r.2.1.wbuf = w.wire ++ w.wbuf
  /-- Pending: a transport write or flush was not ready, or the script is exhausted -/
  pending : r.1 = .pending → r.2.2.1 = [] ∨ ∃ pre, ws = pre ++ WEv.pending :: r.2.2.1
  /-- only `poll_write` / `poll_flush` calls are made -/
  calls : 'r' ∉ r.2.2.2

theorem pollFlush_spec (w : Wr) (ws : List WEv) :
    Flushes w ws (pollFlush w ws) ∧ ((pollFlush w ws).1 = .ready → (pollFlush w ws).2.1.wbuf = []) := by
  obtain ⟨h1, h2, h3, h4⟩ := pollFlushGo_spec ws w [] _ _ _ _ rfl
  exact ⟨⟨h1, h3, by simpa [pollFlush] using h4⟩, h2⟩

theorem pollReady_spec (w : Wr) (ws : List WEv) : Flushes w ws (pollReady w ws) := by
  unfold pollReady
  split
  · exact (pollFlush_spec w ws).1
  · exact ⟨rfl, by simp, by simp⟩

def WInv (c : Conn) : Prop := c.wr.wire ++ c.wr.wbuf = c.started.flatten

def Flushed (s : RStream) (c : Conn) : Prop :=
  (s.st = .receiving ∨ s.st = .done) → c.wr.wbuf = []

/-- what the stream hands on of the transport's result: the end of the transport stream before the
    completion is an error item -/
def fwd : PollR → PollR
  | .done => .item .error
  | r => r

def completes (tag : Bytes) : PollR → Bool
  | .item (.frame f) => requestId f.value = some tag
  | _ => false

theorem fwd_ne_done (r : PollR) : fwd r ≠ .done := by
  cases r <;> simp [fwd]

theorem fwd_pending (r : PollR) : fwd r = .pending ↔ r = .pending := by
  cases r <;> simp [fwd]

theorem fwd_eq_self (r : PollR) (h : fwd r ≠ .item .error) : fwd r = r := by
  cases r <;> simp_all [fwd]

theorem completes_iff (tag : Bytes) (r : PollR) :
    completes tag r = true ↔ ∃ f, fwd r = .item (.frame f) ∧ requestId f.value = some tag := by
  rcases r with _ | ⟨_ | _⟩ | _ <;> simp [completes, fwd]

theorem recvStep_eq (s : RStream) (c : Conn) (rs : List REv) (ws : List WEv) (calls : List Char) :
    recvStep s c rs ws calls =
      ⟨fwd (pollNext c.rd rs).1, { s with st := if completes s.tag (pollNext c.rd rs).1 then .done else s.st },
       { c with rd := (pollNext c.rd rs).2.1 }, (pollNext c.rd rs).2.2.1, ws,
       calls ++ List.replicate (pollNext c.rd rs).2.2.2 'r'⟩ := by
  unfold recvStep
  rcases pollNext c.rd rs with ⟨_ | ⟨f | _⟩ | _, rd', rs', n⟩
  case item.frame =>
    simp only [fwd, completes, decide_eq_true_eq]
    split <;> simp [*]
  all_goals rfl

theorem recvStep_calls (s : RStream) (c : Conn) (rs ws calls) :
    ∃ n, (recvStep s c rs ws calls).calls = calls ++ List.replicate n 'r' :=
  ⟨_, by rw [recvStep_eq]⟩

@[simp] theorem pollNext_done (s : RStream) (c : Conn) (rs ws) (hs : s.st = .done) :
    Stream.pollNext s c rs ws = ⟨.done, s, c, rs, ws, []⟩ := by
  unfold Stream.pollNext
  rw [hs]

theorem pollNext_receiving (s : RStream) (c : Conn) (rs ws) (hs : s.st = .receiving) :
    Stream.pollNext s c rs ws = recvStep s c rs ws [] := by
  unfold Stream.pollNext
  rw [hs]

theorem sendStep_view (s : RStream) (c : Conn) (rs : List REv) (ws : List WEv) (calls : List Char) :
    ∃ u w0 ws0 cl, Flushes c.wr ws (u, w0, ws0, cl) ∧
      ((w0.wbuf = [] ∧ sendStep s c rs ws calls =
          recvStep { s with st := .receiving } { c with wr := w0 } rs ws0 (calls ++ cl)) ∨
       ∃ r, (r = .pending ∨ r = .item .error) ∧
         sendStep s c rs ws calls = ⟨r, s, { c with wr := w0 }, rs, ws0, calls ++ cl⟩) := by
  have hf := pollFlush_spec c.wr ws
  unfold sendStep
  generalize pollFlush c.wr ws = p at hf ⊢
  obtain ⟨u, w0, ws0, cl⟩ := p
  refine ⟨u, w0, ws0, cl, hf.1, ?_⟩
  cases u
  · exact .inl ⟨hf.2 rfl, rfl⟩
  · exact .inr ⟨_, .inl rfl, rfl⟩
  · exact .inr ⟨_, .inr rfl, rfl⟩

/-- **one poll of a live stream**: first the write half runs.  It takes the stream to state `st0` and the
    write half of the connection to `w0`, hands the lines `new` to `start_send` (the command line, exactly
    when the stream leaves `Start`), moves bytes from the write buffer to the wire and makes no read.
    If it does not complete, the poll stops there with Pending or an error; if it does, the poll is the
    `Receiving` arm on what the write half left. -/
theorem pollNext_facts (s : RStream) (c : Conn) (rs : List REv) (ws : List WEv) (hnd : s.st ≠ .done) :
    ∃ st0 w0 ws0 cl new,
      new = (if s.st = .start ∧ st0 ≠ .start then [encodeC s.tag s.args] else []) ∧
      w0.wire ++ w0.wbuf = c.wr.wire ++ c.wr.wbuf ++ new.flatten ∧ 'r' ∉ cl ∧
      ((st0 = .receiving ∧ (Flushed s c → w0.wbuf = []) ∧
          Stream.pollNext s c rs ws =
            recvStep { s with st := st0 } { c with wr := w0, started := c.started ++ new } rs ws0 cl) ∨
       ((st0 = .start ∨ st0 = .sending) ∧ (s.st ≠ .start → st0 ≠ .start) ∧
          ∃ r, (r = .pending ∨ r = .item .error) ∧
            Stream.pollNext s c rs ws =
              ⟨r, { s with st := st0 }, { c with wr := w0, started := c.started ++ new }, rs, ws0, cl⟩)) := by
  obtain ⟨st, tag, args⟩ := s
  unfold Stream.pollNext
  cases st with
  | done => exact absurd rfl hnd
  | receiving =>
    exact ⟨.receiving, c.wr, ws, [], [], by simp, by simp, by simp, .inl ⟨rfl, fun h => h (.inl rfl), by simp⟩⟩
  | sending =>
    obtain ⟨u, w0, ws0, cl, hf, ⟨hw, e⟩ | ⟨r, hr, e⟩⟩ := sendStep_view ⟨.sending, tag, args⟩ c rs ws []
    · exact ⟨.receiving, w0, ws0, cl, [], by simp, by simpa using hf.bytes, hf.calls,
        .inl ⟨rfl, fun _ => hw, by simpa using e⟩⟩
    · exact ⟨.sending, w0, ws0, cl, [], by simp, by simpa using hf.bytes, hf.calls,
        .inr ⟨.inr rfl, by simp, r, hr, by simpa using e⟩⟩
  | start =>
    have hr := pollReady_spec c.wr ws
    simp only
    generalize pollReady c.wr ws = p at hr ⊢
    obtain ⟨u, w1, ws1, cl1⟩ := p
    cases u with
    | pending =>
      exact ⟨.start, w1, ws1, cl1, [], by simp, by simpa using hr.bytes, hr.calls,
        .inr ⟨.inl rfl, by simp, _, .inl rfl, by simp⟩⟩
    | err =>
      exact ⟨.start, w1, ws1, cl1, [], by simp, by simpa using hr.bytes, hr.calls,
        .inr ⟨.inl rfl, by simp, _, .inr rfl, by simp⟩⟩
    | ready =>
      -- `start_send` appends the line to the buffer and to the log; then the `Sending` arm
      obtain ⟨u, w0, ws0, cl, hf, h⟩ := sendStep_view ⟨.sending, tag, args⟩
        { c with wr := startSend w1 tag args, started := c.started ++ [encodeC tag args] } rs ws1 cl1
      have hb : w0.wire ++ w0.wbuf = c.wr.wire ++ c.wr.wbuf ++ [encodeC tag args].flatten := by
        rw [hf.bytes, ← hr.bytes]
        simp [startSend]
      have hc : 'r' ∉ cl1 ++ cl := fun h => (List.mem_append.1 h).elim hr.calls hf.calls
      rcases h with ⟨hw, e⟩ | ⟨r, hr', e⟩
      · exact ⟨.receiving, w0, ws0, cl1 ++ cl, _, by simp, hb, hc, .inl ⟨rfl, fun _ => hw, e⟩⟩
      · exact ⟨.sending, w0, ws0, cl1 ++ cl, _, by simp, hb, hc, .inr ⟨.inr rfl, by simp, r, hr', e⟩⟩

theorem pollNext_keeps (s : RStream) (c : Conn) (rs : List REv) (ws : List WEv) :
    (Stream.pollNext s c rs ws).c.issued = c.issued ∧ (Stream.pollNext s c rs ws).s.tag = s.tag := by
  by_cases hnd : s.st = .done
  · simp [hnd]
  · obtain ⟨st0, w0, ws0, cl, new, -, -, -, ⟨-, -, e⟩ | ⟨-, -, r, -, e⟩⟩ := pollNext_facts s c rs ws hnd
    · rw [e, recvStep_eq]
      exact ⟨rfl, rfl⟩
    · rw [e]
      exact ⟨rfl, rfl⟩

theorem pollNext_sends (s : RStream) (c : Conn) (rs : List REv) (ws : List WEv) :
    ∃ new, new = (if s.st = .start ∧ (Stream.pollNext s c rs ws).s.st ≠ .start then [encodeC s.tag s.args] else []) ∧
      (Stream.pollNext s c rs ws).c.started = c.started ++ new ∧
      (Stream.pollNext s c rs ws).c.wr.wire ++ (Stream.pollNext s c rs ws).c.wr.wbuf =
        c.wr.wire ++ c.wr.wbuf ++ new.flatten := by
  by_cases hnd : s.st = .done
  · exact ⟨[], by simp [hnd], by simp [hnd], by simp [hnd]⟩
  · obtain ⟨st0, w0, ws0, cl, new, hn, hb, -, ⟨h0, -, e⟩ | ⟨-, -, r, -, e⟩⟩ := pollNext_facts s c rs ws hnd
    · rw [e, recvStep_eq]
      refine ⟨new, ?_, rfl, hb⟩
      -- after the `Receiving` arm the state is `Receiving` or `Done`, as little `Start` as `st0`
      cases completes s.tag (pollNext c.rd rs).1 <;> simp [hn, h0]
    · rw [e]
      exact ⟨new, hn, rfl, hb⟩

/-- a poll makes a transport read only in the `Receiving` arm -/
theorem pollNext_reads (s : RStream) (c : Conn) (rs : List REv) (ws : List WEv)
    (hr : ∃ ch ∈ (Stream.pollNext s c rs ws).calls, ch = 'r') :
    (Stream.pollNext s c rs ws).s.st = .receiving ∨ (Stream.pollNext s c rs ws).s.st = .done := by
  by_cases hnd : s.st = .done
  · simp [hnd] at hr
  · obtain ⟨st0, w0, ws0, cl, new, -, -, hc, ⟨rfl, -, e⟩ | ⟨-, -, r, -, e⟩⟩ := pollNext_facts s c rs ws hnd
    · rw [e, recvStep_eq]
      cases completes s.tag (pollNext c.rd rs).1 <;> simp
    · rw [e] at hr
      obtain ⟨ch, h, rfl⟩ := hr
      exact absurd h hc

theorem pollNext_done_iff (s : RStream) (c : Conn) (rs : List REv) (ws : List WEv) (h : s.st ≠ .done) :
    (Stream.pollNext s c rs ws).s.st = .done ↔
      ∃ f, (Stream.pollNext s c rs ws).res = .item (.frame f) ∧ requestId f.value = some s.tag := by
  obtain ⟨st0, w0, ws0, cl, new, -, -, -, ⟨rfl, -, e⟩ | ⟨hs, -, r, hr, e⟩⟩ := pollNext_facts s c rs ws h
  · rw [e, recvStep_eq, ← completes_iff]
    simp
  · -- the write half did not complete: the state is `Start` or `Sending`, the result no frame
    rw [e]
    rcases hs with rfl | rfl <;> rcases hr with rfl | rfl <;> simp

end ClientInv
