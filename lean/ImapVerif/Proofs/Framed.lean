/-
  The codec and the read half of `Framed` (Client.lean):
  * `decodeC` splits the buffer exactly at the consumed length and is stable under extension
    (from `Stable parseResponse`)
  * one `pollNext` conserves bytes, delivers only what `decodeC` yields, and reports Pending only
    when nothing decodable is left in the buffer (`PollSpec`)
  * any number of polls deliver the one-shot framing `ideal` of the byte stream (`polls_ideal`)
-/
import ImapVerif.Client
import ImapVerif.Proofs.StableGrammar
import ImapVerif.Proofs.LineSafeGrammar

open Bytes Parser Grammar Client

namespace Framed

theorem decodeC_of_ok {e rest : Bytes} {v : Response} (h : parseResponse (e ++ rest) = .ok v rest) :
    decodeC (e ++ rest) = .frame ⟨e, v⟩ rest := by
  simp [decodeC, h]

theorem decodeC_frame {b : Bytes} {f : Frame} {rest : Bytes} (h : decodeC b = .frame f rest) :
    b = f.raw ++ rest ∧ parseResponse b = .ok f.value rest := by
  unfold decodeC at h
  split at h <;> cases h
  rename_i hp
  obtain ⟨c, rfl⟩ := Stable.suffix (p := parseResponse) b _ _ hp
  exact ⟨by simp, hp⟩

theorem decodeC_stable_frame {b : Bytes} (x : Bytes) {f : Frame} {rest : Bytes} (h : decodeC b = .frame f rest) :
    decodeC (b ++ x) = .frame f (rest ++ x) := by
  obtain ⟨rfl, hp⟩ := decodeC_frame h
  rw [List.append_assoc]
  exact decodeC_of_ok (by rw [← List.append_assoc]; exact Stable.ok _ _ _ x hp)

theorem decodeC_stable_error (b x : Bytes) (h : decodeC b = .error) : decodeC (b ++ x) = .error := by
  unfold decodeC at h ⊢
  split at h <;> cases h
  · rw [Stable.err (p := parseResponse) b x ‹_›]
  · rw [Stable.fail (p := parseResponse) b x ‹_›]
  · exact absurd ‹_› (Stable.nopanic (p := parseResponse) b)

theorem decodeC_nil : decodeC [] = .none := by rfl

/-- a frame takes at least the two bytes of its CRLF off the buffer -/
theorem decodeC_rest_lt {b : Bytes} {f : Frame} {rest : Bytes} (h : decodeC b = .frame f rest) :
    rest.length + 2 ≤ b.length := by
  obtain ⟨-, hp⟩ := decodeC_frame h
  obtain ⟨c, rfl, -⟩ := LineEnd.ok (p := parseResponse) b f.value rest hp
  simp

def dataOf : List REv → Bytes
  | [] => []
  | .data bs :: r => bs ++ dataOf r
  | _ :: r => dataOf r

def rawOf : PollR → Bytes
  | .item (.frame f) => f.raw
  | _ => []

theorem dataOf_append (a b : List REv) : dataOf (a ++ b) = dataOf a ++ dataOf b := by
  induction a with
  | nil => rfl
  | cons e r ih => cases e <;> simp [dataOf, ih]

/-- whenever the stream is not about to decode, its buffer was tried and holds no complete frame -/
def Settled (s : Rd) : Prop := s.readable = false → decodeC s.rbuf = .none

theorem settled_fresh : Settled ({} : Rd) := fun _ => decodeC_nil

/-- what one `poll_next` of the framed transport, started in `s` after `n` reads under the script `rs`,
    may return -/
structure PollSpec (rs : List REv) (s : Rd) (n : Nat) (r : PollR) (s' : Rd) (rs' : List REv) (n' : Nat) :
    Prop where
  bytes : ∃ used, rs = used ++ rs' ∧ s.rbuf ++ dataOf used = rawOf r ++ s'.rbuf ∧ n' = n + used.length
  healthy : r ≠ .item .error → s.errored = false → Settled s → Settled s' ∧ s'.errored = false
  pending : r = .pending → s.errored = false → Settled s → decodeC s'.rbuf = .none
  frame : ∀ f, r = .item (.frame f) → decodeC (f.raw ++ s'.rbuf) = .frame f s'.rbuf

theorem decodePhase_spec (s : Rd) (rs : List REv) (n : Nat) :
    match decodePhase s with
    | .ret r s' => PollSpec rs s n r s' rs n
    | .cont s' => s.errored = false ∧ s' = { s with readable := false } ∧ (Settled s → decodeC s.rbuf = .none) := by
  fun_cases decodePhase s
  case case2 f rest hd | case6 f rest hd =>
    -- a frame, at end of file or before it: `decodeC` splits the buffer; the stream stays readable, which
    -- makes `Settled` hold whatever the buffer is
    obtain ⟨hb, -⟩ := decodeC_frame hd
    refine ⟨⟨[], rfl, by simpa [dataOf, rawOf] using hb, rfl⟩, fun _ he _ => ⟨by simp_all [Settled], he⟩,
      by simp, ?_⟩
    rintro _ ⟨⟩
    exact hb ▸ hd
  -- the two ways on to the read: the buffer was just tried, or was not readable
  case case8 hd => exact ⟨by simp_all, rfl, fun _ => hd⟩
  case case9 he hr =>
    obtain ⟨⟩ := s
    exact ⟨by simpa using he, by simp_all, fun hs => hs (by simpa using hr)⟩
  -- the other ways out deliver no frame and read nothing: the stream ends (after an error, or on an empty
  -- buffer at end of file, which leaves it settled) or it reports an error, which `healthy` exempts
  all_goals
    refine ⟨⟨[], rfl, List.append_nil _, rfl⟩, ?_, nofun, fun _ h => nomatch h⟩
    simp_all [Settled]

theorem decodePhase_cont {s s0 : Rd} (hd : decodePhase s = .cont s0) :
    s.errored = false ∧ s0 = { s with readable := false } ∧ (Settled s → decodeC s.rbuf = .none) := by
  have := decodePhase_spec s [] 0
  rwa [hd] at this

theorem pollNextGo_of_ret {s s' : Rd} {r : PollR} (hd : decodePhase s = .ret r s') (rs : List REv) (n : Nat) :
    pollNextGo rs s n = (r, s', rs, n) := by
  rw [pollNextGo, hd]

theorem PollSpec.cons {rs : List REv} {s s1 : Rd} {n : Nat} {r : PollR} {s' : Rd} {rs' : List REv} {n' : Nat}
    (h : PollSpec rs s1 (n + 1) r s' rs' n') (ev : REv) (hb : s1.rbuf = s.rbuf ++ dataOf [ev])
    (hr : s1.readable = true) (he : s.errored = false → s1.errored = false) :
    PollSpec (ev :: rs) s n r s' rs' n' := by
  obtain ⟨⟨used, rfl, h2, rfl⟩, hh, hp, hf⟩ := h
  have hs1 : Settled s1 := fun h => by simp [hr] at h
  refine ⟨⟨ev :: used, rfl, ?_, ?_⟩, fun hne e _ => hh hne (he e) hs1, fun hne e _ => hp hne (he e) hs1, hf⟩
  · rw [← h2, hb, List.append_assoc, ← dataOf_append]
    rfl
  · rw [List.length_cons]
    omega

/-- the loop stops at the read, after events `used` that carried no data: no frame is delivered, and the
    buffer is the one the decode phase found without a complete frame -/
theorem PollSpec.stop {s : Rd} {r : PollR} (hn : Settled s → decodeC s.rbuf = .none) (hf : ∀ f, r ≠ .item (.frame f))
    (e : Bool) (he : r ≠ .item .error → e = false) (used : List REv) (hu : dataOf used = []) (rs' : List REv)
    (n : Nat) : PollSpec (used ++ rs') s n r { s with readable := false, errored := e } rs' (n + used.length) := by
  refine ⟨⟨used, rfl, ?_, rfl⟩, fun hne _ hs => ⟨fun _ => hn hs, he hne⟩, fun _ _ hs => hn hs,
    fun f h => absurd h (hf f)⟩
  rcases r with _ | ⟨f | _⟩ | _
  case item.frame => exact absurd rfl (hf f)
  all_goals simp [rawOf, hu]

theorem pollNextGo_spec (rs : List REv) (s : Rd) (n : Nat) : ∀ (r : PollR) (s' : Rd) (rs' : List REv) (n' : Nat),
    pollNextGo rs s n = (r, s', rs', n') → PollSpec rs s n r s' rs' n' := by
  fun_induction pollNextGo rs s n
  case case1 rs s n r s' hd =>
    rintro _ _ _ _ ⟨⟩
    have := decodePhase_spec s rs n
    rwa [hd] at this
  all_goals
    obtain ⟨he, rfl, hn⟩ := decodePhase_cont ‹decodePhase _ = Phase.cont _›
  case case6 ih | case7 ih | case9 ih =>
    -- end of file, an empty chunk, a chunk: read it and loop
    refine fun r s' rs' n' h => (ih r s' rs' n' h).cons _ ?_ rfl id
    -- the buffer grew by the bytes of the event (without `ih` in sight `simp_all` has less to rewrite)
    clear ih h
    simp_all [dataOf]
  all_goals rintro _ _ _ _ ⟨⟩
  case case2 => exact .stop hn (by simp) _ (fun _ => he) [] rfl [] _
  all_goals exact .stop hn (by simp) _ (by simp [he]) [_] (by simp_all [dataOf]) _ _

/-- parse the whole stream in one piece: the frames up to the first incomplete or malformed one -/
def idealGo : Nat → Bytes → List Frame
  | 0, _ => []
  | n + 1, b =>
    match decodeC b with
    | .frame f rest => f :: idealGo n rest
    | _ => []

def ideal (b : Bytes) : List Frame := idealGo (b.length + 1) b

theorem idealGo_fuel : ∀ n m b, b.length < n → b.length < m → idealGo n b = idealGo m b := by
  intro n
  induction n with
  | zero => intro m b h; omega
  | succ n ih =>
    intro m b hn hm
    cases m with
    | zero => omega
    | succ m =>
      simp only [idealGo]
      split
      next f rest hd =>
        have := decodeC_rest_lt hd
        rw [ih m rest (by omega) (by omega)]
      · rfl

theorem ideal_cons {b : Bytes} {f : Frame} {rest : Bytes} (h : decodeC b = .frame f rest) :
    ideal b = f :: ideal rest := by
  have := decodeC_rest_lt h
  unfold ideal
  rw [idealGo, h]
  exact congrArg _ (idealGo_fuel _ _ rest (by omega) (by omega))

theorem ideal_none {b : Bytes} (h : decodeC b = .none) : ideal b = [] := by
  unfold ideal
  rw [idealGo, h]

def polls : Nat → Rd → List REv → List PollR × Rd × List REv
  | 0, s, rs => ([], s, rs)
  | k + 1, s, rs =>
    match pollNext s rs with
    | (r, s', rs', _) =>
      match polls k s' rs' with
      | (l, s'', rs'') => (r :: l, s'', rs'')

def framesOf : List PollR → List Frame
  | [] => []
  | .item (.frame f) :: l => f :: framesOf l
  | _ :: l => framesOf l

theorem framesOf_cons (r : PollR) (l : List PollR) : framesOf (r :: l) = framesOf [r] ++ framesOf l := by
  rcases r with _ | ⟨_ | _⟩ | _ <;> rfl

theorem mem_framesOf_one (g : Frame) (r : PollR) : g ∈ framesOf [r] ↔ r = .item (.frame g) := by
  rcases r with _ | ⟨_ | _⟩ | _ <;> simp [framesOf, eq_comm]

theorem framesOf_replicate_done : ∀ k, framesOf (List.replicate k .done) = []
  | 0 => rfl
  | k + 1 => framesOf_replicate_done k

/-- polls that reported `res` took the read half from `s` under the script `rs` to `s'` under `rs'` and left the
    framing alone.  The equation holds whatever the polls report, errors included; only the health of the read
    half needs a run without error.  `rbuf ++ dataOf rs` is what is still to come: the buffer, then the bytes
    the transport will still give. -/
def Frames (s : Rd) (rs : List REv) (res : List PollR) (s' : Rd) (rs' : List REv) : Prop :=
  framesOf res ++ ideal (s'.rbuf ++ dataOf rs') = ideal (s.rbuf ++ dataOf rs) ∧
  (.item .error ∉ res → s.errored = false → Settled s → Settled s' ∧ s'.errored = false)

theorem Frames.of_no_frame {res : List PollR} (h : framesOf res = []) (s : Rd) (rs : List REv) : Frames s rs res s rs :=
  ⟨by rw [h]; rfl, fun _ he hs => ⟨hs, he⟩⟩

theorem Frames.cons {s s1 s2 : Rd} {rs rs1 rs2 : List REv} {r : PollR} {l : List PollR}
    (h1 : Frames s rs [r] s1 rs1) (h2 : Frames s1 rs1 l s2 rs2) : Frames s rs (r :: l) s2 rs2 := by
  refine ⟨by rw [framesOf_cons, List.append_assoc, h2.1, h1.1], fun hne he hs => ?_⟩
  obtain ⟨hs1, he1⟩ := h1.2 (fun h => hne (List.mem_cons.2 (.inl (List.mem_singleton.1 h)))) he hs
  exact h2.2 (fun h => hne (List.mem_cons_of_mem _ h)) he1 hs1

theorem poll_ideal {s : Rd} {rs : List REv} {r : PollR} {s1 : Rd} {rs1 : List REv} {n : Nat}
    (h : pollNext s rs = (r, s1, rs1, n)) : Frames s rs [r] s1 rs1 := by
  obtain ⟨⟨used, hu1, hu2, -⟩, hk, -, hfr⟩ := pollNextGo_spec rs s 0 r s1 rs1 n h
  refine ⟨?_, fun hne => hk fun h => hne (List.mem_singleton.2 h.symm)⟩
  -- the whole stream = rawOf r ++ (s1.rbuf ++ dataOf rs1)
  rw [hu1, dataOf_append, ← List.append_assoc, hu2]
  rcases r with _ | ⟨f | _⟩ | _
  case item.frame => exact (ideal_cons (decodeC_stable_frame _ (hfr f rfl))).symm
  all_goals simp [framesOf, rawOf]

theorem polls_frames : ∀ {k : Nat} {s : Rd} {rs : List REv} {res : List PollR} {s'' : Rd} {rs'' : List REv},
    polls k s rs = (res, s'', rs'') → Frames s rs res s'' rs''
  | 0, s, rs, _, _, _, h => by
    cases h
    exact .of_no_frame rfl s rs
  | k + 1, s, rs, res, s'', rs'', h => by
    rcases hp : pollNext s rs with ⟨r, s1, rs1, n⟩
    rcases hq : polls k s1 rs1 with ⟨l, s2, rs2⟩
    simp only [polls, hp, hq] at h
    cases h
    exact (poll_ideal hp).cons (polls_frames hq)

/-- **run invariant**, as C04 states it: for runs in which no poll reports an error -/
theorem polls_ideal : ∀ (k : Nat) (s : Rd) (rs : List REv) (res : List PollR) (s'' : Rd) (rs'' : List REv),
    polls k s rs = (res, s'', rs'') → s.errored = false → Settled s →
    (∀ r ∈ res, r ≠ .item .error) →
    framesOf res ++ ideal (s''.rbuf ++ dataOf rs'') = ideal (s.rbuf ++ dataOf rs) ∧
    Settled s'' ∧ s''.errored = false :=
  fun k s rs res s'' rs'' h he hs hne =>
    have ⟨h1, h2⟩ := polls_frames h
    ⟨h1, h2 (fun h => hne _ h rfl) he hs⟩

end Framed
