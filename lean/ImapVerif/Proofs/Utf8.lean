/-
  The UTF-8 validator of `Bytes.lean`: `decodeOne` is a prefix code (what it reads does not depend on what
  follows, and is one ASCII byte or bytes from 0x80 up); `validUtf8` is the inductive `WF`, which spares
  its users the fuel.
-/
import ImapVerif.Bytes

open Bytes

namespace Utf8

/-- the byte ranges of UTF-8's trailing bytes all start at 0x80 or above -/
theorem high_of_range {lo hi b : UInt8} (hlo : 0x80 ≤ lo) (h : (decide (lo ≤ b) && decide (b ≤ hi)) = true) :
    0x80 ≤ b :=
  UInt8.le_trans hlo (of_decide_eq_true (Bool.and_eq_true_iff.1 h).1)

theorem high_of_cont (a : UInt8) (h : isCont a = true) : 0x80 ≤ a :=
  high_of_range (UInt8.le_refl _) h

theorem high_of_second3 (a b : UInt8) (h : second3 a b = true) : 0x80 ≤ b := by
  unfold second3 at h
  split at h
  · exact high_of_range (by decide) h
  · split at h
    · exact high_of_range (by decide) h
    · exact high_of_cont b h

theorem high_of_second4 (a b : UInt8) (h : second4 a b = true) : 0x80 ≤ b := by
  unfold second4 at h
  split at h
  · exact high_of_range (by decide) h
  · split at h
    · exact high_of_range (by decide) h
    · exact high_of_cont b h

theorem decodeOne_prefix (b : Bytes) :
    match decodeOne b with
    | none => True
    | some (cp, r) => ∃ p, b = p ++ r ∧ p ≠ [] ∧ (∀ r', decodeOne (p ++ r') = some (cp, r')) ∧
        ((∃ a, p = [a] ∧ a < 0x80) ∨ ∀ x ∈ p, 0x80 ≤ x) := by
  fun_cases decodeOne b <;> try exact trivial
  case case2 a r ha =>
    exact ⟨[a], rfl, nofun, fun r' => by simp only [List.cons_append, List.nil_append, decodeOne, ha, if_true],
      .inl ⟨a, rfl, ha⟩⟩
  case case4 a ha x r h2 =>
    refine ⟨[a, x], rfl, nofun, fun r' => by simp [decodeOne, ha, h2], .inr ?_⟩
    simp only [ok2, Bool.and_eq_true] at h2
    simpa using ⟨UInt8.not_lt.1 ha, high_of_cont x h2.2⟩
  case case6 a ha x h2 y r h3 =>
    refine ⟨[a, x, y], rfl, nofun, fun r' => by simp [decodeOne, ha, h2, h3], .inr ?_⟩
    simp only [ok3, Bool.and_eq_true] at h3
    simpa using ⟨UInt8.not_lt.1 ha, high_of_second3 a x h3.1.2, high_of_cont y h3.2⟩
  case case8 a ha x h2 y h3 z r h4 =>
    refine ⟨[a, x, y, z], rfl, nofun, fun r' => by simp [decodeOne, ha, h2, h3, h4], .inr ?_⟩
    simp only [ok4, Bool.and_eq_true] at h4
    simpa using ⟨UInt8.not_lt.1 ha, high_of_second4 a x h4.1.1.2, high_of_cont y h4.1.2, high_of_cont z h4.2⟩

/-- the same for a given result.  (Proved through the `match` form: `cases` on `decodeOne b = some (cp, r)`
    in the branches of `decodeOne` would try to normalise the code point arithmetic.) -/
theorem decodeOne_split {b : Bytes} {cp : Nat} {r : Bytes} (h : decodeOne b = some (cp, r)) :
    ∃ p, b = p ++ r ∧ p ≠ [] ∧ (∀ r', decodeOne (p ++ r') = some (cp, r')) ∧
      ((∃ a, p = [a] ∧ a < 0x80) ∨ ∀ x ∈ p, 0x80 ≤ x) := by
  have := decodeOne_prefix b
  rwa [h] at this

inductive WF : Bytes → Prop
  | nil : WF []
  | step (b : Bytes) (cp : Nat) (r : Bytes) : decodeOne b = some (cp, r) → WF r → WF b

theorem decodeOne_length (b : Bytes) (cp : Nat) (r : Bytes) (h : decodeOne b = some (cp, r)) :
    r.length < b.length := by
  obtain ⟨p, rfl, hp, -⟩ := decodeOne_split h
  have := List.length_pos_iff.2 hp
  rw [List.length_append]
  omega

theorem decodeGo_isSome_iff (fuel : Nat) (b : Bytes) (acc : List Nat) (hf : b.length ≤ fuel) :
    (decodeUtf8Go fuel b acc).isSome = true ↔ WF b := by
  induction fuel generalizing b acc with
  | zero =>
    obtain rfl := List.eq_nil_of_length_eq_zero (Nat.le_zero.1 hf)
    exact ⟨fun _ => .nil, fun _ => rfl⟩
  | succ n ih =>
    cases b with
    | nil => exact ⟨fun _ => .nil, fun _ => rfl⟩
    | cons x xs =>
      simp only [decodeUtf8Go]
      split
      next cp r hd =>
        have hl := decodeOne_length _ cp r hd
        rw [ih r _ (by omega)]
        refine ⟨WF.step _ cp r hd, fun hw => ?_⟩
        cases hw with
        | step _ cp' r' hd' hr =>
          cases hd.symm.trans hd'
          exact hr
      next hd =>
        refine ⟨nofun, fun hw => ?_⟩
        cases hw with
        | step _ cp r hd' => cases hd.symm.trans hd'

theorem validUtf8_iff_wf (b : Bytes) : validUtf8 b = true ↔ WF b :=
  decodeGo_isSome_iff _ b [] (Nat.le_refl _)

theorem WF.ascii_cons {x : UInt8} {t : Bytes} (hx : x < 0x80) (ht : WF t) : WF (x :: t) :=
  .step _ x.toNat t (by simp only [decodeOne, hx, if_true]) ht

theorem ascii_utf8 (s : Bytes) (h : ∀ c ∈ s, c < 0x80) : validUtf8 s = true := by
  refine (validUtf8_iff_wf s).2 ?_
  induction s with
  | nil => exact .nil
  | cons c cs ih => exact .ascii_cons (h c (by simp)) (ih fun x hx => h x (by simp [hx]))

end Utf8
