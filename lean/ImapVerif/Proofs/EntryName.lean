/-
  `check_entry_name` (rfc5464.rs) never indexes out of range and its stage loop always terminates:
  `checkEntryName i` is `ok` or `err` for every `i`.
-/
import ImapVerif.Grammar.Ext

open Bytes Parser Grammar

namespace EntryName

theorem startsWith_length : ∀ {a p : Bytes}, startsWith a p = true → p.length ≤ a.length
  | _, [], _ => Nat.zero_le _
  | [], _ :: _, h => by cases h
  | x :: xs, q :: qs, h => by
    simp only [startsWith, Bool.and_eq_true] at h
    exact Nat.succ_le_succ (startsWith_length h.2)

theorem startsWith_drop {i p : Bytes} {l : Nat} (hl : l ≤ i.length)
    (h : startsWith (i.drop l) p = true) : l + p.length ≤ i.length := by
  have := startsWith_length h
  rw [List.length_drop] at this
  omega

theorem firstNonComponent_lt : ∀ {t : Bytes} {k : Nat}, firstNonComponent t = some k → k < t.length
  | [], k, h => by cases h
  | c :: r, k, h => by
    simp only [firstNonComponent] at h
    split at h
    · cases hr : firstNonComponent r with rw [hr] at h
      | none => cases h
      | some k' => cases h; exact Nat.succ_lt_succ (firstNonComponent_lt hr)
    · cases h; exact Nat.zero_lt_succ _

/-- `st` carries an offset inside the buffer, and the loop started in `st` ends within `k` iterations.
    The stages are passed in the order of the constructors and only `path` repeats, each time further to
    the right: hence the bytes left, `i.length - l`, plus the rank of the stage (written without the
    subtraction).  `i.length + 6` is the fuel that `checkEntryName` supplies. -/
def Fits (i : Bytes) (k : Nat) : Stage → Prop
  | .privateShared => i.length + 6 ≤ k
  | .admin l => l ≤ i.length ∧ i.length + 4 ≤ k + l
  | .vendorComment l => l ≤ i.length ∧ i.length + 3 ≤ k + l
  | .path l => l ≤ i.length ∧ i.length + 2 ≤ k + l
  | .done l => l ≤ i.length ∧ 1 ≤ k
  | .failErr => 1 ≤ k
  | .panic => False

theorem checkPrivateShared_fits {i : Bytes} {k : Nat} (h : Fits i (k + 1) .privateShared) :
    Fits i k (checkPrivateShared i) := by
  simp only [Fits] at h
  fun_cases checkPrivateShared i <;> simp only [Fits]
  · next hs =>
    have : 8 ≤ i.length := startsWith_length hs
    omega
  · next hs =>
    have : 7 ≤ i.length := startsWith_length hs
    omega
  · omega

theorem checkAdmin_fits {i : Bytes} {l k : Nat} (h : Fits i (k + 1) (.admin l)) : Fits i k (checkAdmin i l) := by
  simp only [Fits] at h
  fun_cases checkAdmin i l <;> simp only [Fits]
  · omega
  · next hs =>
    have : l + 6 ≤ i.length := startsWith_drop h.1 hs
    omega
  · omega

theorem checkVendorComment_fits {i : Bytes} {l k : Nat} (h : Fits i (k + 1) (.vendorComment l)) :
    Fits i k (checkVendorComment i l) := by
  simp only [Fits] at h
  fun_cases checkVendorComment i l <;> simp only [Fits]
  · omega
  · next hs =>
    have : l + 8 ≤ i.length := startsWith_drop h.1 hs
    omega
  · omega
  · omega
  · omega
  · next hlen hnone =>
    exact hnone _ _ (List.getElem?_eq_getElem (by omega)) (List.getElem?_eq_getElem (by omega))
  · omega

theorem checkPath_fits {i : Bytes} {l k : Nat} (h : Fits i (k + 1) (.path l)) : Fits i k (checkPath i l) := by
  simp only [Fits] at h
  fun_cases checkPath i l <;> simp only [Fits]
  · omega
  · next hnone =>
    have := List.getElem?_eq_none_iff.mp hnone
    omega
  · omega
  · omega
  · next j hj =>
    have := firstNonComponent_lt hj
    rw [List.length_drop] at this
    omega
  · omega

theorem entryLoop_total (i : Bytes) :
    ∀ fuel st, Fits i fuel st → entryLoop i fuel st = .ok ∨ entryLoop i fuel st = .err
  | 0, st, h => by cases st <;> simp only [Fits] at h <;> omega
  | fuel + 1, .privateShared, h => entryLoop_total i fuel _ (checkPrivateShared_fits h)
  | fuel + 1, .admin _, h => entryLoop_total i fuel _ (checkAdmin_fits h)
  | fuel + 1, .vendorComment _, h => entryLoop_total i fuel _ (checkVendorComment_fits h)
  | fuel + 1, .path _, h => entryLoop_total i fuel _ (checkPath_fits h)
  | _ + 1, .done l, h => .inl (if_neg (Nat.not_lt.mpr h.1))
  | _ + 1, .failErr, _ => .inr rfl
  | _ + 1, .panic, h => h.elim

theorem checkEntryName_total (i : Bytes) : checkEntryName i = .ok ∨ checkEntryName i = .err :=
  entryLoop_total i _ _ (Nat.le_refl _)

end EntryName
