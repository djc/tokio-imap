/-
  The tag generator: `tagOf k = "A" ++ four decimal digits of k % 10000`.
-/
import ImapVerif.Builders
import ImapVerif.Proofs.Num

open Bytes Builders

namespace Tags

/-- `pad4` has a left inverse: it is injective on the numbers below 10 000 -/
theorem decVal_pad4 (n : Nat) (h : n < 10000) : decVal (pad4 n) = n := by
  have d (k : Nat) : digitVal (digitOf (k % 10)) = k % 10 := Num.digitVal_digitOf _ (Nat.mod_lt _ (by decide))
  simp only [pad4, decVal, List.foldl_cons, List.foldl_nil, d]
  omega

theorem tagOf_eq_iff (i j : Nat) : tagOf i = tagOf j ↔ i % 10000 = j % 10000 := by
  refine ⟨fun h => ?_, fun h => by rw [tagOf, h, ← tagOf]⟩
  have := congrArg decVal (List.cons.inj h).2
  rwa [decVal_pad4 _ (Nat.mod_lt _ (by decide)), decVal_pad4 _ (Nat.mod_lt _ (by decide))] at this

end Tags
